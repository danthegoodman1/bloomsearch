-- Root of the `BloomVerif` library: every model, bridge, lemma and property module.
import BloomVerif.Bridge.Leaf
import BloomVerif.Bridge.PreCond
import BloomVerif.Bridge.Tree
import BloomVerif.Bridge.Guard
import BloomVerif.Bridge.Scanner
import BloomVerif.Bridge.ScannerList
import BloomVerif.Bridge.Held
import BloomVerif.Bridge.Chunk
import BloomVerif.Bridge.StatsLoop
import BloomVerif.Bridge.Trigger
import BloomVerif.Bridge.Slot
import BloomVerif.Bridge.MergeMM
import BloomVerif.Bridge.ChanHelpers
import BloomVerif.Bridge.PlanReads
import BloomVerif.Props.C01
import BloomVerif.Props.C02
import BloomVerif.Props.C04
import BloomVerif.Props.C11
import BloomVerif.Props.C11Gen
import BloomVerif.Props.C12
import BloomVerif.Props.C17
import BloomVerif.Props.C18
import BloomVerif.Props.C19
import BloomVerif.Props.C25
import BloomVerif.Props.C26
import BloomVerif.Props.C05
import BloomVerif.Props.C05Gen
import BloomVerif.Props.C07
import BloomVerif.Props.C08
import BloomVerif.Props.C08Gen
import BloomVerif.Props.C09
import BloomVerif.Props.C06
import BloomVerif.Props.C10
import BloomVerif.Props.C10Gen
import BloomVerif.Props.C13
import BloomVerif.Props.C03
import BloomVerif.Props.C27
import BloomVerif.Props.C20
import BloomVerif.Props.C21
import BloomVerif.Props.C22
import BloomVerif.Props.C22Gen
import BloomVerif.Props.C23
import BloomVerif.Props.C24
import BloomVerif.Props.C16
import BloomVerif.Props.C15
import BloomVerif.Props.C14
