/-
  Shared value types of the model. Field names follow the Go structs of /repo so that the
  regenerated definitions (`BloomVerif/Generated/*.lean`, written by /verif/gen on every run)
  elaborate against them unchanged. Core Lean only — this file is linked into the native driver.
-/
namespace BloomVerif

abbrev maxInt64 : Int := 9223372036854775807
abbrev minInt64 : Int := -9223372036854775808
abbrev maxUint64 : Int := 18446744073709551615
abbrev maxUint32 : Int := 4294967295

/-- Go's two's-complement wrap of a mathematical integer into int64. -/
def wrap64 (x : Int) : Int := (x + 9223372036854775808) % 18446744073709551616 - 9223372036854775808
/-- Go's wrap into uint64. -/
def wrapU64 (x : Int) : Int := x % 18446744073709551616

def wadd (a b : Int) : Int := wrap64 (a + b)
def wsub (a b : Int) : Int := wrap64 (a - b)

def InI64 (x : Int) : Prop := minInt64 ≤ x ∧ x ≤ maxInt64
instance (x : Int) : Decidable (InI64 x) := by unfold InI64; infer_instance

/-- `omega` after unfolding the int64 range and its extremes everywhere. -/
macro "i64omega" : tactic =>
  `(tactic| ((try simp only [InI64, maxInt64, minInt64, maxUint64] at *); omega))

theorem wrap64_id {x : Int} (h : InI64 x) : wrap64 x = x := by
  unfold wrap64; i64omega
theorem wadd_id {a b : Int} (h : InI64 (a + b)) : wadd a b = a + b := wrap64_id h
theorem wsub_id {a b : Int} (h : InI64 (a - b)) : wsub a b = a - b := wrap64_id h
theorem wrapU64_id {x : Int} (h0 : 0 ≤ x) (h1 : x ≤ maxUint64) : wrapU64 x = x := by
  unfold wrapU64; i64omega

/-- Go's `if b { return true }; return false`, and its negation, as the translator prints them. -/
theorem ite_bool (b : Bool) : (if b = true then true else false) = b := by cases b <;> rfl
theorem ite_bool_not (b : Bool) : (if b = true then false else true) = !b := by cases b <;> rfl

structure MinMaxIndex where
  Min : Int
  Max : Int
deriving Repr, DecidableEq, Inhabited

structure NumericCondition where
  Operator : String := ""
  Value : Int := 0
  Values : List Int := []
  Min : Int := 0
  Max : Int := 0
deriving Repr, DecidableEq, Inhabited

structure StringCondition where
  Operator : String := ""
  Value : String := ""
  Values : List String := []
  Min : String := ""
  Max : String := ""
deriving Repr, DecidableEq, Inhabited

/-- `PrefilterCondition` of query.go (pointer fields as `Option`). -/
structure PrefilterCondition where
  ConditionType : String := ""
  PartitionCondition : Option StringCondition := none
  MinMaxFieldName : String := ""
  MinMaxCondition : Option NumericCondition := none
deriving Repr, Inhabited

/-- `blockMergeShape` of merge.go. -/
structure blockMergeShape where
  rows : Int
  uncompressedSize : Int
deriving Repr, DecidableEq, Inhabited

/-- The slice of `BloomSearchEngineConfig` the translated functions read. -/
structure EngineConfig where
  MaxRowGroupRows : Int := 0
  MaxRowGroupBytes : Int := 0
  MaxFileSize : Int := 0
  MaxFilesToMergePerOperation : Int := 0
  MaxBufferedRows : Int := 0
  MaxBufferedBytes : Int := 0
  MaxBufferedTime : Int := 0
deriving Repr, DecidableEq, Inhabited

/-- Receiver type of translated engine methods (`b.config.X`). -/
structure Engine where
  config : EngineConfig
deriving Repr, Inhabited

/-- The framing fields of `DataBlockMetadata` (everything the bounds checks read) plus the
    content-level fields the content model uses. -/
structure DataBlockMetadata where
  RowDataOffset : Int := 0
  RowDataSize : Int := 0
  Rows : Int := 0
  BloomFilterOffset : Int := 0
  BloomFilterSize : Int := 0
  UncompressedSize : Int := 0
  PartitionID : String := ""
  MinMaxIndexes : List (String × MinMaxIndex) := []
deriving Repr, DecidableEq, Inhabited

structure FileMetadata where
  BlockFilterRegionOffset : Int := 0
  BlockFilterRegionSize : Int := 0
  DataBlocks : List DataBlockMetadata := []
deriving Repr, DecidableEq, Inhabited

end BloomVerif
