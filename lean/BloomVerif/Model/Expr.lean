/-
  M2/M12: the expression-tree shape shared by bloom, regex and prefilter expressions
  (`ExpressionType`, optional `Condition`, `Children`) and the engine's evaluation conventions:
  a nil expression and a CONDITION node without a condition are true, OR is `any` (so an empty
  OR is false), AND is `all` (so an empty AND is true), and an unknown node type is false.
-/
namespace BloomVerif

inductive Expr (C : Type) where
  | mk (ty : String) (cond : Option C) (children : List (Expr C))
deriving Repr

namespace Expr
variable {C : Type}

def ty : Expr C → String | .mk t _ _ => t
def cond : Expr C → Option C | .mk _ c _ => c
def children : Expr C → List (Expr C) | .mk _ _ ch => ch

mutual
  /-- `evaluatePrefilterExpression` / `matchesBloomExpression` / `evaluateBloomExpression` /
      `matchesRegexExpression`: all four have this shape. -/
  def eval (leaf : C → Bool) : Expr C → Bool
    | .mk ty cond ch =>
      if ty = "CONDITION" then (match cond with | none => true | some c => leaf c)
      else if ty = "OR" then evalAny leaf ch
      else if ty = "AND" then evalAll leaf ch
      else false
  def evalAny (leaf : C → Bool) : List (Expr C) → Bool
    | [] => false
    | e :: es => eval leaf e || evalAny leaf es
  def evalAll (leaf : C → Bool) : List (Expr C) → Bool
    | [] => true
    | e :: es => eval leaf e && evalAll leaf es
end

/-- A nil expression pointer (absent expression) is true. -/
def evalOpt (leaf : C → Bool) : Option (Expr C) → Bool
  | none => true
  | some e => eval leaf e

mutual
  /-- `P` holds of every condition occurring anywhere in the tree. -/
  def Forall (P : C → Prop) : Expr C → Prop
    | .mk _ cond ch => (∀ c, cond = some c → P c) ∧ ForallL P ch
  def ForallL (P : C → Prop) : List (Expr C) → Prop
    | [] => True
    | e :: es => Forall P e ∧ ForallL P es
end

def ForallOpt (P : C → Prop) : Option (Expr C) → Prop
  | none => True
  | some e => Forall P e

mutual
  /-- Number of nodes. -/
  def size : Expr C → Nat
    | .mk _ _ ch => 1 + sizeL ch
  def sizeL : List (Expr C) → Nat
    | [] => 0
    | e :: es => size e + sizeL es
end

theorem evalAny_eq_any (leaf : C → Bool) (l : List (Expr C)) : evalAny leaf l = l.any (eval leaf) := by
  induction l <;> simp [evalAny, *]

theorem evalAll_eq_all (leaf : C → Bool) (l : List (Expr C)) : evalAll leaf l = l.all (eval leaf) := by
  induction l <;> simp [evalAll, *]

theorem eval_and (leaf : C → Bool) (cond : Option C) (ch : List (Expr C)) :
    eval leaf (.mk "AND" cond ch) = ch.all (eval leaf) := by
  simp [eval, evalAll_eq_all]

theorem eval_or (leaf : C → Bool) (cond : Option C) (ch : List (Expr C)) :
    eval leaf (.mk "OR" cond ch) = ch.any (eval leaf) := by
  simp [eval, evalAny_eq_any]

/-- An if-chain is monotone branch by branch: `eval` is one over the node types, the leaf evaluators
    (`matchBloomCond`, `entryCond`, `filtCond`, `evalPreCond`) are chains over the condition kinds. -/
theorem _root_.BloomVerif.ite_mono {p : Prop} [Decidable p] {a a' b b' : Bool} (ha : a = true → a' = true)
    (hb : b = true → b' = true) : (if p then a else b) = true → (if p then a' else b') = true := by
  split <;> assumption

mutual
  /-- Evaluation is monotone in the leaf verdicts: there is no negation in the tree. -/
  theorem eval_mono (l1 l2 : C → Bool) (P : C → Prop)
      (h : ∀ c, P c → l1 c = true → l2 c = true) :
      ∀ e : Expr C, Forall P e → eval l1 e = true → eval l2 e = true
    | .mk ty cond ch => fun hp => by
      unfold eval
      refine ite_mono ?_ (ite_mono (evalAny_mono l1 l2 P h ch hp.2) (ite_mono (evalAll_mono l1 l2 P h ch hp.2) id))
      cases cond with
      | none => exact id
      | some c => exact h c (hp.1 c rfl)
  theorem evalAny_mono (l1 l2 : C → Bool) (P : C → Prop)
      (h : ∀ c, P c → l1 c = true → l2 c = true) :
      ∀ es : List (Expr C), ForallL P es → evalAny l1 es = true → evalAny l2 es = true
    | [] => fun _ => id
    | e :: es => fun hp => by
      simp only [evalAny, Bool.or_eq_true]
      exact Or.imp (eval_mono l1 l2 P h e hp.1) (evalAny_mono l1 l2 P h es hp.2)
  theorem evalAll_mono (l1 l2 : C → Bool) (P : C → Prop)
      (h : ∀ c, P c → l1 c = true → l2 c = true) :
      ∀ es : List (Expr C), ForallL P es → evalAll l1 es = true → evalAll l2 es = true
    | [] => fun _ => id
    | e :: es => fun hp => by
      simp only [evalAll, Bool.and_eq_true]
      exact And.imp (eval_mono l1 l2 P h e hp.1) (evalAll_mono l1 l2 P h es hp.2)
end

theorem evalOpt_mono (l1 l2 : C → Bool) (P : C → Prop)
    (h : ∀ c, P c → l1 c = true → l2 c = true) (e : Option (Expr C)) (hp : ForallOpt P e) :
    evalOpt l1 e = true → evalOpt l2 e = true := by
  cases e with
  | none => intro _; rfl
  | some e => exact eval_mono l1 l2 P h e hp

end Expr

mutual
  theorem forall_true {C : Type} : ∀ e : Expr C, Expr.Forall (fun _ => True) e
    | .mk _ _ ch => ⟨fun _ _ => trivial, forallL_true ch⟩
  theorem forallL_true {C : Type} : ∀ es : List (Expr C), Expr.ForallL (fun _ => True) es
    | [] => trivial
    | e :: es => ⟨forall_true e, forallL_true es⟩
end

theorem forallOpt_true {C : Type} (e : Option (Expr C)) : Expr.ForallOpt (fun _ => True) e := by
  cases e with
  | none => trivial
  | some e => exact forall_true e

namespace Expr
variable {C D : Type}

/-- Monotonicity with nothing asked of the leaves. -/
theorem evalOpt_mono' (l1 l2 : C → Bool) (h : ∀ c, l1 c = true → l2 c = true) (e : Option (Expr C)) :
    evalOpt l1 e = true → evalOpt l2 e = true :=
  evalOpt_mono l1 l2 (fun _ => True) (fun c _ => h c) e (forallOpt_true e)

mutual
  /-- Relabel the conditions of a tree. -/
  def map (g : C → D) : Expr C → Expr D
    | .mk ty cond ch => .mk ty (cond.map g) (mapL g ch)
  def mapL (g : C → D) : List (Expr C) → List (Expr D)
    | [] => []
    | e :: es => map g e :: mapL g es
end

mutual
  theorem eval_map (l : D → Bool) (g : C → D) :
      ∀ e : Expr C, eval l (map g e) = eval (fun c => l (g c)) e
    | .mk ty cond ch => by
      simp only [map, eval, evalAny_map l g ch, evalAll_map l g ch]
      cases cond <;> rfl
  theorem evalAny_map (l : D → Bool) (g : C → D) :
      ∀ es : List (Expr C), evalAny l (mapL g es) = evalAny (fun c => l (g c)) es
    | [] => rfl
    | e :: es => by simp only [mapL, evalAny, eval_map l g e, evalAny_map l g es]
  theorem evalAll_map (l : D → Bool) (g : C → D) :
      ∀ es : List (Expr C), evalAll l (mapL g es) = evalAll (fun c => l (g c)) es
    | [] => rfl
    | e :: es => by simp only [mapL, evalAll, eval_map l g e, evalAll_map l g es]
end

end Expr
end BloomVerif
