/-
  M3: leaf evaluators of prefilter conditions (hand model). The property theorems are stated
  about these; `Bridge/Leaf.lean` proves the definitions regenerated from /repo equal to them.
-/
import BloomVerif.Model.Types
namespace BloomVerif

/-- Operators as the engine names them. -/
inductive Op | eq | ne | gt | gte | lt | lte | isIn | notIn | between | notBetween
deriving Repr, DecidableEq

def parseOp (s : String) : Option Op :=
  if s = "EQ" then some .eq else if s = "NE" then some .ne
  else if s = "GT" then some .gt else if s = "GTE" then some .gte
  else if s = "LT" then some .lt else if s = "LTE" then some .lte
  else if s = "IN" then some .isIn else if s = "NOT_IN" then some .notIn
  else if s = "BETWEEN" then some .between else if s = "NOT_BETWEEN" then some .notBetween
  else none

/-- The engine's name of an operator: the right inverse of `parseOp`. -/
def Op.name : Op → String
  | .eq => "EQ" | .ne => "NE" | .gt => "GT" | .gte => "GTE" | .lt => "LT" | .lte => "LTE"
  | .isIn => "IN" | .notIn => "NOT_IN" | .between => "BETWEEN" | .notBetween => "NOT_BETWEEN"

theorem parseOp_name (o : Op) : parseOp o.name = some o := by
  cases o <;> simp only [Op.name, parseOp, String.reduceEq, ↓reduceIte]

/-- A string that names no operator differs from each of the ten literals. As a `simp only` set this
    evaluates any if-chain over operator names, in whatever order its cases come. -/
theorem ne_names {s : String} (h : ∀ o : Op, s ≠ o.name) :
    s ≠ "EQ" ∧ s ≠ "NE" ∧ s ≠ "GT" ∧ s ≠ "GTE" ∧ s ≠ "LT" ∧ s ≠ "LTE" ∧ s ≠ "IN" ∧ s ≠ "NOT_IN" ∧
      s ≠ "BETWEEN" ∧ s ≠ "NOT_BETWEEN" :=
  ⟨h .eq, h .ne, h .gt, h .gte, h .lt, h .lte, h .isIn, h .notIn, h .between, h .notBetween⟩

theorem parseOp_unknown {s : String} (h : ∀ o : Op, s ≠ o.name) : parseOp s = none := by
  simp only [parseOp, ne_names h, if_false]

/-- To prove something of every operator string, prove it of the ten names and of the strings that
    are none of them. -/
theorem opName_cases {P : String → Prop} (known : ∀ o : Op, P o.name)
    (unknown : ∀ s, (∀ o : Op, s ≠ o.name) → P s) (s : String) : P s :=
  Classical.byCases (p := ∃ o : Op, s = o.name) (fun ⟨o, e⟩ => e ▸ known o)
    fun h => unknown s fun o e => h ⟨o, e⟩

/-- `EvaluateNumericCondition`: exact comparison of one int64 value. Unknown operator ⇒ false. -/
def evalNumeric (v : Int) (c : NumericCondition) : Bool :=
  match parseOp c.Operator with
  | some .eq => decide (v = c.Value)
  | some .ne => decide (v ≠ c.Value)
  | some .gt => decide (v > c.Value)
  | some .gte => decide (v ≥ c.Value)
  | some .lt => decide (v < c.Value)
  | some .lte => decide (v ≤ c.Value)
  | some .isIn => c.Values.any (fun x => decide (v = x))
  | some .notIn => !(c.Values.any (fun x => decide (v = x)))
  | some .between => decide (v ≥ c.Min) && decide (v ≤ c.Max)
  | some .notBetween => decide (v < c.Min) || decide (v > c.Max)
  | none => false

/-- `EvaluateStringCondition` (partition ids). Go compares strings bytewise; Lean compares by
    code point; the two orders agree on valid UTF-8 (the only stream the correspondence sends). -/
def evalString (v : String) (c : StringCondition) : Bool :=
  match parseOp c.Operator with
  | some .eq => decide (v = c.Value)
  | some .ne => decide (v ≠ c.Value)
  | some .gt => decide (v > c.Value)
  | some .gte => decide (v ≥ c.Value)
  | some .lt => decide (v < c.Value)
  | some .lte => decide (v ≤ c.Value)
  | some .isIn => c.Values.any (fun x => decide (v = x))
  | some .notIn => !(c.Values.any (fun x => decide (v = x)))
  | some .between => decide (v ≥ c.Min) && decide (v ≤ c.Max)
  | some .notBetween => decide (v < c.Min) || decide (v > c.Max)
  | none => false

/-- `EvaluateMinMaxCondition`: may the block's range hold a satisfying value? Bounds stored at an
    int64 extreme are saturated (open-ended). -/
def evalMinMax (mm : MinMaxIndex) (c : NumericCondition) : Bool :=
  let satAbove := decide (mm.Max = maxInt64)
  let satBelow := decide (mm.Min = minInt64)
  match parseOp c.Operator with
  | some .eq => decide (mm.Min ≤ c.Value) && decide (c.Value ≤ mm.Max)
  | some .ne => decide (mm.Min ≠ c.Value) || decide (mm.Max ≠ c.Value) || satAbove || satBelow
  | some .gt => decide (mm.Max > c.Value) || satAbove
  | some .gte => decide (mm.Max ≥ c.Value)
  | some .lt => decide (mm.Min < c.Value) || satBelow
  | some .lte => decide (mm.Min ≤ c.Value)
  | some .isIn => c.Values.any (fun x => decide (mm.Min ≤ x) && decide (x ≤ mm.Max))
  | some .notIn => true
  | some .between => decide (mm.Min ≤ c.Max) && decide (c.Min ≤ mm.Max)
  | some .notBetween => decide (mm.Min < c.Min) || decide (mm.Max > c.Max) || satAbove || satBelow
  | none => false

/-- `UpdateMinMaxIndex`. -/
def updateMinMax (e : MinMaxIndex) (newMin newMax : Int) : MinMaxIndex :=
  { Min := if newMin < e.Min then newMin else e.Min, Max := if newMax > e.Max then newMax else e.Max }

/-- Saturating conversion of an arbitrary mathematical integer to int64 (what `toInt64`,
    `clampUint64ToInt64` and `clampFloatToInt64` compute on integral inputs). -/
def clamp (i : Int) : Int :=
  if i ≥ maxInt64 then maxInt64 else if i ≤ minInt64 then minInt64 else i

theorem clamp_spec (i : Int) :
    (i ≥ maxInt64 ∧ clamp i = maxInt64) ∨ (i ≤ minInt64 ∧ clamp i = minInt64) ∨
    (minInt64 < i ∧ i < maxInt64 ∧ clamp i = i) := by
  unfold clamp; split
  · exact .inl ⟨‹_›, rfl⟩
  · split
    · exact .inr (.inl ⟨‹_›, rfl⟩)
    · exact .inr (.inr ⟨by omega, by omega, rfl⟩)

/- The order facts of `clamp`: `omega` splits on the two tests of its definition. -/

theorem clamp_mono {a b : Int} (h : a ≤ b) : clamp a ≤ clamp b := by
  unfold clamp; i64omega

theorem lt_clamp_or {k i : Int} (h : k < i) : k < clamp i ∨ clamp i = maxInt64 := by
  unfold clamp; i64omega

theorem clamp_lt_or {k i : Int} (h : i < k) : clamp i < k ∨ clamp i = minInt64 := by
  unfold clamp; i64omega

theorem le_clamp {k i : Int} (hk : k ≤ maxInt64) (h : k ≤ i) : k ≤ clamp i := by
  unfold clamp; i64omega

theorem clamp_le {k i : Int} (hk : minInt64 ≤ k) (h : i ≤ k) : clamp i ≤ k := by
  unfold clamp; i64omega

/-- Strictly inside int64 `clamp` is the identity, so its value there determines its argument. -/
theorem eq_of_clamp_eq {k i : Int} (h : clamp i = k) (hlo : minInt64 < k) (hhi : k < maxInt64) : i = k := by
  unfold clamp at h; i64omega

theorem clamp_inI64 (i : Int) : InI64 (clamp i) := by
  unfold clamp; i64omega

/-- `UpdateMinMaxIndex` only widens: the updated range contains the old range and the new value. -/
theorem updateMinMax_covers (e : MinMaxIndex) (a b : Int) :
    (updateMinMax e a b).Min ≤ e.Min ∧ e.Max ≤ (updateMinMax e a b).Max ∧
    (updateMinMax e a b).Min ≤ a ∧ b ≤ (updateMinMax e a b).Max := by
  unfold updateMinMax; dsimp only; omega

theorem updateMinMax_in (e : MinMaxIndex) (lo hi : Int) (he : InI64 e.Min ∧ InI64 e.Max)
    (hlo : InI64 lo) (hhi : InI64 hi) :
    InI64 (updateMinMax e lo hi).Min ∧ InI64 (updateMinMax e lo hi).Max := by
  obtain ⟨_, _⟩ := he
  unfold updateMinMax
  constructor <;> dsimp only <;> split <;> assumption

end BloomVerif
