/-
  M11: the Results cursor as a transition system (C20) and the per-query handle pool (C21); the
  query-semaphore slot discipline of the worker programs (C22) is in Model/Slots.
-/
namespace BloomVerif.Cursor

/-- Terminal error state of a cursor. -/
inductive Term
  | clean                      -- nil
  | failures (n : Nat)         -- errors.Join of n ≥ 1 recorded failures
  | canceled                   -- wraps the Query context's error
deriving Repr, DecidableEq

structure St where
  recorded : Nat := 0              -- failures recorded so far (block errors, MetaStore iteration error)
  chan : Nat := 0                  -- batches sitting in rowChan (≤ 4)
  queue : List Nat := []           -- their sizes, oldest first (chan = queue.length)
  pending : Nat := 0               -- rows of the batch being handed out that Next has not returned yet
  workersDone : Bool := false      -- pipeline exited: rowChan and done are closed
  callerCanceled : Bool := false   -- the Query context is done
  internalCanceled : Bool := false -- the cursor's internal context is done (caller cancel, Close, finish)
  inNext : Bool := false           -- a Next call is in progress
  sawCancel : Bool := false        -- that call found the internal context done at its entry check
  canceledAtEntry : Bool := false  -- the Query context was already done when that call began
  iterDone : Bool := false
  finalized : Bool := false
  err : Term := .clean
  closeCalls : Nat := 0
  nextFalse : Nat := 0             -- how many times Next has returned false
deriving Repr, DecidableEq

inductive Ev
  | record                       -- a worker records a failure
  | deliver (rows : Nat)         -- a worker hands a non-empty batch to the cursor
  | workersDone                  -- every worker exited; channels closed
  | cancelCaller                 -- the Query context ends (cancel or deadline)
  | propagate                    -- … and, some time later, the cursor's derived internal context observes it
  | nextEnter                    -- Next begins (entry check of the internal context)
  | nextRow                      -- Next returns true with a row of the pending batch
  | nextBatch                    -- Next takes a batch from the channel and returns true
  | nextFalseDone                -- Next returns false immediately: iteration already ended
  | nextFalseClean               -- Next observed the closed channel: finish(joinedErrs)
  | nextFalseTerm                -- Next observed cancellation / Close: terminate
  | close                        -- Close (first call does the work)
deriving Repr, DecidableEq

def joined (n : Nat) : Term := if n = 0 then .clean else .failures n

/-- `finish`: first finalizer wins; iteration ends; the internal context is canceled. -/
def finish (s : St) (e : Term) : St :=
  { s with iterDone := true, pending := 0, inNext := false, nextFalse := s.nextFalse + 1, internalCanceled := true,
           finalized := true, err := if s.finalized then s.err else e }

def step (s : St) : Ev → Option St
  | .record => if s.workersDone then none else some { s with recorded := s.recorded + 1 }
  | .deliver rows =>
    if s.workersDone || decide (s.chan ≥ 4) || decide (rows = 0) then none
    else some { s with chan := s.chan + 1, queue := s.queue ++ [rows] }
  | .workersDone => if s.workersDone then none else some { s with workersDone := true }
  -- The internal context is derived from the Query context. For the standard library's contexts the
  -- cancellation propagates synchronously (cancelCaller immediately followed by propagate); for any other
  -- Context implementation a goroutine forwards it at some later point.
  | .cancelCaller => some { s with callerCanceled := true }
  | .propagate => if s.callerCanceled then some { s with internalCanceled := true } else none
  | .nextEnter =>
    -- Next checks the internal context and then the Query context itself; seeing either done it terminates
    -- (terminate cancels the internal context)
    if s.inNext then none
    else some { s with inNext := true, sawCancel := s.internalCanceled || s.callerCanceled,
                       internalCanceled := s.internalCanceled || s.callerCanceled, canceledAtEntry := s.callerCanceled }
  | .nextFalseDone =>
    if s.inNext && s.iterDone then some { s with inNext := false, nextFalse := s.nextFalse + 1 } else none
  | .nextRow =>
    if s.inNext && !s.iterDone && !s.sawCancel && decide (s.pending > 0)
    then some { s with inNext := false, pending := s.pending - 1 } else none
  | .nextBatch =>
    if s.inNext && !s.iterDone && !s.sawCancel && decide (s.pending = 0) && decide (s.chan > 0)
    then some { s with inNext := false, chan := s.chan - 1, queue := s.queue.tail,
                       pending := (s.queue.head?.getD 1) - 1 }   -- returns the batch's first row now
    else none
  | .nextFalseClean =>
    if s.inNext && !s.iterDone && !s.sawCancel && decide (s.pending = 0) && decide (s.chan = 0) && s.workersDone
    then some (finish s (joined s.recorded)) else none
  | .nextFalseTerm =>
    if s.inNext && !s.iterDone && s.internalCanceled && s.workersDone
    then some (finish s (if s.callerCanceled then .canceled else joined s.recorded)) else none
  | .close =>
    if s.closeCalls = 0 then
      -- cancel, wait for the pipeline (guard: workersDone), freeze the terminal state
      if s.workersDone then
        some { s with closeCalls := 1, internalCanceled := true, finalized := true,
                      err := if s.finalized then s.err else (if s.callerCanceled then .canceled else joined s.recorded) }
      else none
    else some { s with closeCalls := s.closeCalls + 1 }

def run : St → List Ev → Option St
  | s, [] => some s
  | s, e :: es => match step s e with | none => none | some s' => run s' es

def Reachable (s : St) : Prop := ∃ tr, run {} tr = some s

end BloomVerif.Cursor

namespace BloomVerif.Pool

/-- Ghost status of a handle the query opened. -/
inductive HStatus
  | lent        -- checked out by exactly one reader
  | idle        -- in its file's idle set
  | closed (n : Nat)  -- closed n ≥ 1 times
deriving Repr, DecidableEq

structure Entry where
  ptr : Nat
  refs : Nat
  idle : List Nat      -- handle ids
deriving Repr, DecidableEq

structure St where
  files : List Entry := []
  closed : Bool := false
  status : List (Nat × HStatus) := []   -- every handle ever opened
  next : Nat := 0
  handlePtr : List (Nat × Nat) := []    -- handle → file pointer
deriving Repr, DecidableEq

inductive Op
  | retain (ptr : Nat)
  | release (ptr : Nat)
  | acquire (ptr : Nat)          -- lends an idle handle or opens a new one (id = next)
  | put (ptr : Nat) (h : Nat)
  | discard (h : Nat)
  | closeAll
deriving Repr, DecidableEq

def findEntry (files : List Entry) (p : Nat) : Option Entry := files.find? (fun e => e.ptr == p)
def setEntry (files : List Entry) (e : Entry) : List Entry :=
  if files.any (fun x => x.ptr == e.ptr) then files.map (fun x => if x.ptr == e.ptr then e else x) else files ++ [e]
def dropEntry (files : List Entry) (p : Nat) : List Entry := files.filter (fun e => e.ptr != p)

def setStatus (st : List (Nat × HStatus)) (h : Nat) (v : HStatus) : List (Nat × HStatus) :=
  if st.any (fun x => x.1 == h) then st.map (fun x => if x.1 == h then (h, v) else x) else st ++ [(h, v)]

def closeOne (st : List (Nat × HStatus)) (h : Nat) : List (Nat × HStatus) :=
  match st.lookup h with
  | some (.closed n) => setStatus st h (.closed (n + 1))
  | _ => setStatus st h (.closed 1)

def closeMany (st : List (Nat × HStatus)) (hs : List Nat) : List (Nat × HStatus) := hs.foldl closeOne st

/-- One pool operation. Returns the new state and, for `acquire`, the handle lent (none = refused). -/
def step (s : St) : Op → St × Option Nat
  | .retain p =>
    if s.closed then (s, none)
    else match findEntry s.files p with
      | some e => ({ s with files := setEntry s.files { e with refs := e.refs + 1 } }, none)
      | none => ({ s with files := setEntry s.files ⟨p, 1, []⟩ }, none)
  | .release p =>
    match findEntry s.files p with
    | none => (s, none)
    | some e =>
      if e.refs > 1 then ({ s with files := setEntry s.files { e with refs := e.refs - 1 } }, none)
      else ({ s with files := dropEntry s.files p, status := closeMany s.status e.idle }, none)
  | .acquire p =>
    if s.closed then (s, none)
    else match findEntry s.files p with
      | some e =>
        match e.idle.reverse with
        | h :: restRev =>
          ({ s with files := setEntry s.files { e with idle := restRev.reverse }, status := setStatus s.status h .lent }, some h)
        | [] => ({ s with status := setStatus s.status s.next .lent, next := s.next + 1, handlePtr := s.handlePtr ++ [(s.next, p)] }, some s.next)
      | none => ({ s with status := setStatus s.status s.next .lent, next := s.next + 1, handlePtr := s.handlePtr ++ [(s.next, p)] }, some s.next)
  | .put p h =>
    match findEntry s.files p with
    | some e =>
      if s.closed || decide (e.refs = 0) then ({ s with status := closeOne s.status h }, none)
      else ({ s with files := setEntry s.files { e with idle := e.idle ++ [h] }, status := setStatus s.status h .idle }, none)
    | none => ({ s with status := closeOne s.status h }, none)
  | .discard h => ({ s with status := closeOne s.status h }, none)
  | .closeAll =>
    ({ s with closed := true, files := [], status := closeMany s.status (s.files.flatMap (·.idle)) }, none)

end BloomVerif.Pool
