/-
  M6: byte framing of the file format — the length-prefixed row section (`BlockRowScanner`, the
  writers in ingest.go / merge.go), the layout arithmetic of a written file (row data blocks from
  offset 0, then the block filter region with one section per block in block order), and the
  bounds checks (`FileMetadata.validate`, `validateFilterSection`, `heldSection`, the chunk extent of
  `readChunkFrom`) in exact integer arithmetic.
-/
import BloomVerif.Model.Types
namespace BloomVerif

abbrev Bytes := List UInt8

/-- Little-endian uint32. -/
def u32le (n : Nat) : Bytes :=
  [UInt8.ofNat (n % 256), UInt8.ofNat (n / 256 % 256), UInt8.ofNat (n / 65536 % 256), UInt8.ofNat (n / 16777216 % 256)]

def u32dec (a b c d : UInt8) : Nat := a.toNat + 256 * b.toNat + 65536 * c.toNat + 16777216 * d.toNat

/-- A row data section as ingest and merge write it: for each row, its length as uint32 LE, then
    its bytes. -/
def encodeRows : List Bytes → Bytes
  | [] => []
  | r :: rs => u32le r.length ++ r ++ encodeRows rs

inductive ScanErr | truncatedPrefix | lengthExceeds
deriving Repr, DecidableEq

/-- `BlockRowScanner.Next` iterated to exhaustion. `fuel` bounds the number of rows (any value ≥ the
    section length suffices). -/
def scanRows : Nat → Bytes → Except ScanErr (List Bytes)
  | 0, _ => .ok []
  | fuel + 1, data =>
    match data with
    | [] => .ok []
    | a :: b :: c :: d :: rest =>
      let n := u32dec a b c d
      if n > rest.length then .error .lengthExceeds
      else match scanRows fuel (rest.drop n) with
        | .ok rs => .ok (rest.take n :: rs)
        | .error e => .error e
    | _ => .error .truncatedPrefix

/-- Sizes of one block as written: compressed row data and filter section. -/
structure BlockSize where
  rowData : Nat
  filter : Nat
deriving Repr

def sumRow (bs : List BlockSize) : Nat := (bs.map (·.rowData)).sum
def sumFilter (bs : List BlockSize) : Nat := (bs.map (·.filter)).sum

/-- Block metadata offsets as flush / merge compute them: row data at the running row offset,
    filter section at region start + running section offset. -/
def layoutBlocks (region : Nat) : Nat → Nat → List BlockSize → List DataBlockMetadata
  | _, _, [] => []
  | rowOff, secOff, b :: bs =>
    { RowDataOffset := rowOff, RowDataSize := b.rowData,
      BloomFilterOffset := region + secOff, BloomFilterSize := b.filter } ::
      layoutBlocks region (rowOff + b.rowData) (secOff + b.filter) bs

/-- The metadata of a written file. -/
def layout (bs : List BlockSize) : FileMetadata :=
  { BlockFilterRegionOffset := sumRow bs, BlockFilterRegionSize := sumFilter bs,
    DataBlocks := layoutBlocks (sumRow bs) 0 0 bs }

/-- `validateFilterSection` in exact arithmetic. -/
def validSection (b : DataBlockMetadata) (regionOffset regionEnd : Int) : Bool :=
  if b.BloomFilterSize < 0 then false
  else if b.BloomFilterSize = 0 then true
  else decide (regionOffset ≤ b.BloomFilterOffset ∧ b.BloomFilterOffset ≤ regionEnd ∧
               b.BloomFilterSize ≤ regionEnd - b.BloomFilterOffset)

/-- `FileMetadata.validate` in exact arithmetic. -/
def validFile (m : FileMetadata) (dataLimit : Int) : Bool :=
  decide (0 ≤ m.BlockFilterRegionOffset ∧ 0 ≤ m.BlockFilterRegionSize ∧ 0 ≤ dataLimit ∧
          m.BlockFilterRegionOffset ≤ dataLimit ∧ m.BlockFilterRegionSize ≤ dataLimit - m.BlockFilterRegionOffset) &&
  m.DataBlocks.all (fun b =>
    decide (0 ≤ b.RowDataOffset ∧ 0 ≤ b.RowDataSize ∧ b.RowDataOffset ≤ m.BlockFilterRegionOffset ∧
            b.RowDataSize ≤ m.BlockFilterRegionOffset - b.RowDataOffset) &&
    validSection b m.BlockFilterRegionOffset (m.BlockFilterRegionOffset + m.BlockFilterRegionSize))

/-- All framing fields are Go `int`/`int64` values. -/
def BlockI64 (b : DataBlockMetadata) : Prop :=
  InI64 b.RowDataOffset ∧ InI64 b.RowDataSize ∧ InI64 b.BloomFilterOffset ∧ InI64 b.BloomFilterSize

def FileI64 (m : FileMetadata) : Prop :=
  InI64 m.BlockFilterRegionOffset ∧ InI64 m.BlockFilterRegionSize ∧ ∀ b ∈ m.DataBlocks, BlockI64 b

/-- What acceptance must guarantee: every extent a reader seeks or allocates by lies inside the
    data area `[0, dataLimit]`. -/
def InBounds (m : FileMetadata) (dataLimit : Int) : Prop :=
  0 ≤ m.BlockFilterRegionOffset ∧ 0 ≤ m.BlockFilterRegionSize ∧
  m.BlockFilterRegionOffset + m.BlockFilterRegionSize ≤ dataLimit ∧
  ∀ b ∈ m.DataBlocks,
    (0 ≤ b.RowDataOffset ∧ 0 ≤ b.RowDataSize ∧ b.RowDataOffset + b.RowDataSize ≤ m.BlockFilterRegionOffset) ∧
    (0 ≤ b.BloomFilterSize ∧ (b.BloomFilterSize > 0 →
       m.BlockFilterRegionOffset ≤ b.BloomFilterOffset ∧
       b.BloomFilterOffset + b.BloomFilterSize ≤ m.BlockFilterRegionOffset + m.BlockFilterRegionSize))

/-- `heldSection`: does the chunk `[chunkStart, chunkStart+bufLen)` cover the block's section in
    full? Returns the slice bounds inside the buffer. -/
def heldSection (b : DataBlockMetadata) (chunkStart bufLen : Int) : Option (Int × Int) :=
  let off := b.BloomFilterOffset - chunkStart
  if off < 0 ∨ off > bufLen ∨ b.BloomFilterSize > bufLen - off then none
  else some (off, off + b.BloomFilterSize)

/-- `readChunkFrom`: the extent of the chunk read for block `i` — start at its section, extended
    over the following sections while they stay within `target` bytes of the start (sections with
    size 0 are skipped; the first section behind the start, past the cap, or invalid ends the
    extension). `chunkExtend` returns the end; `chunkFor` below pairs it with the start. -/
def chunkExtend (target : Int) (regionStart regionEnd start : Int) : Int → List DataBlockMetadata → Int
  | e, [] => e
  | e, nb :: rest =>
    if nb.BloomFilterSize = 0 then chunkExtend target regionStart regionEnd start e rest
    else if !validSection nb regionStart regionEnd then e
    else
      let ns := nb.BloomFilterOffset
      let ne := ns + nb.BloomFilterSize
      if ns < start ∨ ne - start > target then e
      else chunkExtend target regionStart regionEnd start (if ne > e then ne else e) rest

def chunkFor (target regionStart regionEnd : Int) (b : DataBlockMetadata) (following : List DataBlockMetadata) : Int × Int :=
  (b.BloomFilterOffset,
   chunkExtend target regionStart regionEnd b.BloomFilterOffset (b.BloomFilterOffset + b.BloomFilterSize) following)

end BloomVerif
