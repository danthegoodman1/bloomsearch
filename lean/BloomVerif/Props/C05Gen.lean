/-
  C05 / C07 on the code as regenerated from `chan_helpers.go` (T-gen, `Bridge/ChanHelpers`): how one
  acknowledgement reaches one done channel, and how a flush's verdict reaches all of its waiters. The pipeline LTS
  (Props/C05) takes "the worker offers the verdict to each waiter of the request once" as a step; these theorems
  say that the real senders do exactly that.
-/
import BloomVerif.Bridge.ChanHelpers
namespace BloomVerif.C05
open BloomVerif.Bridge

/-- **At most once, and truthfully (regenerated code)**: one call of `sendWithContext` puts the value on the
    channel at most once, and returns nil exactly when it did - whatever the channel and the context do. -/
theorem send_once_generated (ready : Bool) (w : Gen.WaitCase) :
    (Gen.sendWithContext ready w).1 ≤ 1 ∧
    ((Gen.sendWithContext ready w).2 = true ↔ (Gen.sendWithContext ready w).1 = 1) :=
  ⟨send_at_most_once ready w, send_nil_iff_sent ready w⟩

/-- **A ready channel always receives (regenerated code)**: a buffered channel with room, or an unbuffered one
    whose receiver is waiting, gets its value even when the context has already ended (Stop's deadline passed). -/
theorem ready_channel_receives_generated (w : Gen.WaitCase) : Gen.sendWithContext true w = (1, true) :=
  ready_always_receives w

/-- **Every waiter of a flush is offered the verdict exactly once (regenerated code)**: the fan-out makes one
    attempt per channel, in order, none skipped after an earlier failure; each attempt sends at most once; a
    waiter whose channel is ready receives whatever happened to the others. -/
theorem fanout_generated (chs : List Waiter) :
    (Gen.sendToChannelsWithContext chs).1.length = chs.length ∧
    (∀ n ∈ (Gen.sendToChannelsWithContext chs).1, n ≤ 1) ∧
    (∀ i (h : i < chs.length), chs[i].1 = false → chs[i].2.1 = true →
      (Gen.sendToChannelsWithContext chs).1[i]? = some 1) ∧
    (Gen.sendToChannelsWithContext chs).2 = (chs.filter (fun c => !(attempt c).2)).length := by
  rw [fanout_spec]
  refine ⟨List.length_map _, List.forall_mem_map.2 fun c _ => attempt_at_most_once c, fun i h hn hr => ?_, rfl⟩
  rw [List.getElem?_map, List.getElem?_eq_getElem h, Option.map_some, attempt_ready chs[i] hn hr]

/-- three waiters: a blocked one whose context ends, a nil channel, a ready one - the first failure does not keep
    the third from receiving; one error is collected -/
example :
    Gen.sendToChannelsWithContext [(false, false, .ctxDone), (true, false, .ctxDone), (false, true, .ctxDone)] = ([0, 0, 1], 1) := by
  decide

end BloomVerif.C05
