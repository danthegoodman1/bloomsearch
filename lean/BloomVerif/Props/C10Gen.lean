/-
  C10 on the code as regenerated from `ingest.go` (T-gen, `Bridge/Trigger`): the flush decisions of
  `processIngestRequest` and `ingestWorker`. Kept apart from `Props/C10` so that only C10's check depends on the
  trigger bridge: the check of C06 also builds `Props/C10`, for `reject_leaves_no_trace`, and should not
  pull the bridge in.
-/
import BloomVerif.Bridge.Trigger
namespace BloomVerif.C10
open BloomVerif.Actor

/-- Witness config: all limits positive (10 rows, 1000 bytes, 2 rows and 1000 bytes per partition, 100 time units). -/
private def nv_cfg : ACfg := ⟨10, 1000, 2, 1000, 100⟩

/-- Witness state: the actor after a rejected batch, a two-row batch for two partitions at time 7, and a quiet tick. -/
private def nv_buffered : ASt :=
  (runMsgs nv_cfg {} [.bad 9, .batch 1 [⟨1, "a", 10⟩, ⟨2, "b", 10⟩] 7, .tick 50]).1

/-- **Immediately, on the regenerated code**: whenever a limit is reached by a batch, the decision
    `processIngestRequest` takes as regenerated from the Go text (per-partition check folded over the touched
    partitions, then the buffer check) is "flush", whatever the clock says. -/
theorem C10_limits_fire_generated (c : ACfg) (s : ASt) (rows : List RowIn) (since : Nat)
    (h : reaches c s rows = true) :
    Bridge.batchDecision c rows (addRows rows s.parts) (s.rows + rows.length) (s.bytes + sumSize rows) since = true := by
  -- the decision is `reaches c s rows || decide (since ≥ c.maxTime)`
  rw [Bridge.batchDecision_eq]
  exact Bool.or_eq_true_iff.2 (.inl h)

/-- non-vacuity: the premise of `C10_limits_fire_generated` holds for the buffered state above and the batch that
    brings partition "a" to its row-group limit -/
example : reaches nv_cfg nv_buffered [⟨3, "a", 10⟩] = true ∧
    Bridge.batchDecision nv_cfg [⟨3, "a", 10⟩] (addRows [⟨3, "a", 10⟩] nv_buffered.parts) 3 30 53 = true :=
  ⟨by decide, by decide⟩

/-- The model's step on a non-empty batch *is* the regenerated decision: it flushes everything and empties the
    buffer when the decision is true, and only buffers otherwise. -/
theorem C10_step_is_generated (c : ACfg) (s : ASt) (w : Nat) (rows : List RowIn) (now : Nat) (hne : rows ≠ []) :
    step c s (.batch w rows now) =
      if Bridge.batchDecision c rows (addRows rows s.parts) (s.rows + rows.length) (s.bytes + sumSize rows)
          (now - Bridge.startOf s now)
      then ({}, [.flush (addRows rows s.parts) (s.waiters ++ [w])])
      else ({ parts := addRows rows s.parts, waiters := s.waiters ++ [w], rows := s.rows + rows.length,
              bytes := s.bytes + sumSize rows, t0 := some (Bridge.startOf s now) }, []) :=
  Bridge.step_batch_generated c s w rows now hne

/-- non-vacuity: the premise of `C10_step_is_generated` holds for a one-row batch that stays under every limit, and
    the regenerated decision for it is "keep buffering" (so both branches of the statement are inhabited, the
    other one by the example above) -/
example : ([⟨3, "c", 10⟩] : List RowIn) ≠ [] ∧
    Bridge.batchDecision nv_cfg [⟨3, "c", 10⟩] (addRows [⟨3, "c", 10⟩] nv_buffered.parts) 3 30 (60 - Bridge.startOf nv_buffered 60) = false :=
  ⟨by decide, by decide⟩

/-- **By time, on the regenerated code**: with rows buffered since `t`, the ticker condition regenerated from
    `ingestWorker` holds at every tick at or after `t + MaxBufferedTime`. -/
theorem C10_time_generated (c : ACfg) (s : ASt) (now t : Nat) (hr : s.rows > 0) (ht : s.t0 = some t)
    (hn : now ≥ t + c.maxTime) :
    Gen.tickTrigger (s.rows : Int) s.t0.isSome ((now - t : Nat) : Int) (c.maxTime : Int) = true := by
  rw [Bridge.tickTrigger_eq, ht, Bridge.decide_cast_ge, decide_eq_true (by omega : now - t ≥ c.maxTime),
    decide_eq_true (by omega : (s.rows : Int) > 0)]
  rfl

/-- non-vacuity: the premises of `C10_time_generated` hold for the buffered state above at tick 107, and the
    regenerated condition is false one time unit earlier (the condition is not constantly true) -/
example : nv_buffered.rows > 0 ∧ nv_buffered.t0 = some 7 ∧ 107 ≥ 7 + nv_cfg.maxTime ∧
    Gen.tickTrigger (nv_buffered.rows : Int) nv_buffered.t0.isSome ((106 - 7 : Nat) : Int) (nv_cfg.maxTime : Int) = false :=
  ⟨by decide, by decide, by decide, by decide⟩

/-- The limits are judged in uncompressed bytes: as regenerated, one buffered row of marshaled length `len` adds
    `len + LengthPrefixSize` to its partition's and to the buffer's byte counter and one to both row counters. -/
theorem C10_accounting_generated (us rc bb br len : Int) :
    Gen.rowAccount us rc bb br len = (us + (len + 4), rc + 1, bb + (len + 4), br + 1) :=
  Bridge.rowAccount_eq us rc bb br len

end BloomVerif.C10
