/-
  C23 — Query statistics account for every evaluated block exactly once (model: failure-free,
  uncancelled runs; the failure and cancellation clauses are checked on the implementation).
-/
import BloomVerif.Lemmas.ReadPlan
import BloomVerif.Lemmas.Assoc
import BloomVerif.Lemmas.Stats
import BloomVerif.Bridge.StatsLoop
namespace BloomVerif.C23
open BloomVerif.ReadPlan

/-- Each evaluated block is listed at most once (blocks of a file have distinct offsets). -/
theorem stats_at_most_once (hb : Bool) (f : QFile) (h : (f.blocks.map (·.off)).Nodup) :
    ((filePlan hb f).stats.map (·.1)).Nodup := by
  rcases filePlan_cases hb f with e | ⟨_, _, e, _⟩ <;> rw [e]
  · exact .nil
  · rw [List.map_map]; exact h.sublist (List.filter_sublist.map _)

/-- non-vacuity: the premise of `stats_at_most_once` holds for a three-block file (one block pruned by its filters, one scanned, one dropped by the prefilter), whose plan lists two blocks -/
example : ∃ f : QFile, (f.blocks.map (·.off)).Nodup ∧ f.blocks.length = 3 ∧
    (filePlan true f).stats = [(0, .skipped), (40, .processed)] :=
  ⟨⟨true, [⟨0, 5, true, false, 9⟩, ⟨40, 3, true, true, 9⟩, ⟨80, 1, false, true, 9⟩]⟩, by decide, by decide, by decide⟩

/-- All or none: a file lists either none of its prefilter-surviving blocks or all of them. -/
theorem all_or_none (hb : Bool) (f : QFile) :
    (filePlan hb f).stats = [] ∨ (filePlan hb f).stats.map (·.1) = (kept f).map (·.off) := by
  rcases filePlan_cases hb f with e | ⟨_, _, e, _⟩ <;> rw [e]
  · exact .inl rfl
  · exact .inr (by rw [List.map_map]; rfl)

/-- Nothing of a block listed as skipped is read: it is not among the row reads. -/
theorem skipped_not_read (hb : Bool) (f : QFile) (o : Nat) (h : (o, BStat.skipped) ∈ (filePlan hb f).stats)
    (hn : (f.blocks.map (·.off)).Nodup) : o ∉ rowReads (filePlan hb f) := by
  intro hr
  obtain ⟨⟨o', st⟩, hm, rfl⟩ := List.mem_map.mp hr
  obtain ⟨hm, hp⟩ := List.mem_filter.mp hm
  have hk := stats_at_most_once hb f hn
  cases (List.lookup_eq_some_of_mem hk hm).symm.trans (List.lookup_eq_some_of_mem hk h)
  cases hp

/-- non-vacuity: the premises of `skipped_not_read` hold for block 0 of a three-block file with distinct offsets, while another block (40) is read -/
example : ∃ (f : QFile) (o : Nat), (o, BStat.skipped) ∈ (filePlan true f).stats ∧ (f.blocks.map (·.off)).Nodup ∧
    rowReads (filePlan true f) = [40] :=
  ⟨⟨true, [⟨0, 5, true, false, 9⟩, ⟨40, 3, true, true, 9⟩, ⟨80, 1, false, true, 9⟩]⟩, 0, by decide, by decide, by decide⟩

open BloomVerif.Stats

/-- witness file: block 0 is ruled out by its own filters, block 40 is scanned (rows 0 and 2 of 3 match),
    block 80 is dropped by the prefilter, block 120 is scanned without a match -/
private def nv_blocks : List SBlock :=
  [⟨⟨0, 5, true, false, 9⟩, 50, [1, 2]⟩, ⟨⟨40, 3, true, true, 9⟩, 33, [0, 2]⟩, ⟨⟨80, 1, false, true, 9⟩, 10, [0]⟩, ⟨⟨120, 2, true, true, 0⟩, 21, []⟩]

/-- A skipped block reports zero rows and zero bytes. -/
theorem skipped_reports_zero (hb : Bool) (bs : List SBlock) (e : Entry) (he : e ∈ entries hb bs)
    (hs : e.skipped = true) : e.rowsProcessed = 0 ∧ e.bytesProcessed = 0 := by
  obtain ⟨b, _, rfl⟩ := List.mem_map.mp he
  unfold entryOf at hs ⊢
  cases h : blockStat hb b.q <;> simp [h] at hs ⊢

/-- non-vacuity: the witness file has a skipped entry (block 0), and it reports zeros -/
example : (⟨0, true, 0, 0⟩ : Entry) ∈ entries true nv_blocks ∧
    ((⟨0, true, 0, 0⟩ : Entry).rowsProcessed = 0 ∧ (⟨0, true, 0, 0⟩ : Entry).bytesProcessed = 0) :=
  have h : (⟨0, true, 0, 0⟩ : Entry) ∈ entries true nv_blocks := by decide
  ⟨h, skipped_reports_zero true nv_blocks _ h rfl⟩

/-- On clean completion a processed block's rows processed equal its row count. -/
theorem processed_reports_all_rows (hb : Bool) (bs : List SBlock) (e : Entry) (he : e ∈ entries hb bs)
    (hs : e.skipped = false) : ∃ b ∈ bs, b.q.pre = true ∧ e.off = b.q.off ∧ e.rowsProcessed = b.q.rows ∧ e.bytesProcessed = b.bytes := by
  obtain ⟨b, hb', rfl⟩ := List.mem_map.mp he
  have hm := List.mem_filter.mp hb'
  refine ⟨b, hm.1, by simpa using hm.2, ?_⟩
  unfold entryOf at hs ⊢
  cases h : blockStat hb b.q <;> simp [h] at hs ⊢

/-- non-vacuity: block 40 of the witness file is processed with its 3 rows and 33 bytes -/
example : (⟨40, false, 3, 33⟩ : Entry) ∈ entries true nv_blocks ∧
    ∃ b ∈ nv_blocks, b.q.pre = true ∧ (40 : Nat) = b.q.off ∧ (3 : Nat) = b.q.rows ∧ (33 : Nat) = b.bytes :=
  have h : (⟨40, false, 3, 33⟩ : Entry) ∈ entries true nv_blocks := by decide
  ⟨h, processed_reports_all_rows true nv_blocks ⟨40, false, 3, 33⟩ h rfl⟩

/-- Every block that contained a returned row is listed, as processed. -/
theorem returned_row_block_processed (hb : Bool) (bs : List SBlock) (o i : Nat)
    (h : (o, i) ∈ returned hb bs) : ∃ e ∈ entries hb bs, e.off = o ∧ e.skipped = false := by
  obtain ⟨b, hbm, hr⟩ := List.mem_flatMap.mp h
  refine ⟨entryOf hb b, List.mem_map.mpr ⟨b, hbm, rfl⟩, ?_⟩
  unfold entryOf
  cases hst : blockStat hb b.q with
  | skipped => simp [hst] at hr
  | processed =>
    simp only [hst, List.mem_map] at hr
    obtain ⟨_, _, heq⟩ := hr
    exact ⟨(Prod.mk.inj heq).1, rfl⟩

/-- non-vacuity: row 2 of block 40 is returned by the witness file's query -/
example : ((40, 2) : Nat × Nat) ∈ returned true nv_blocks ∧ ∃ e ∈ entries true nv_blocks, e.off = 40 ∧ e.skipped = false :=
  have h : ((40, 2) : Nat × Nat) ∈ returned true nv_blocks := by decide
  ⟨h, returned_row_block_processed true nv_blocks 40 2 h⟩

/-- The totals equal the per-block sums, and the block counters partition the entries. -/
theorem totals_are_sums (es : List Entry) :
    (totals es).rowsScanned = ((es.filter (!·.skipped)).map (·.rowsProcessed)).sum ∧
    (totals es).bytesScanned = ((es.filter (!·.skipped)).map (·.bytesProcessed)).sum ∧
    (totals es).blocksProcessed = (es.filter (!·.skipped)).length ∧
    (totals es).blocksSkipped = (es.filter (·.skipped)).length := by
  unfold totals
  rw [totals_eq_sums]
  simp

/-- The totals do not depend on the order in which the workers finished their blocks. -/
theorem totals_order_independent (l1 l2 : List Entry) (h : l1.Perm l2) : totals l1 = totals l2 := by
  simp only [totals, totals_eq_sums, ((h.filter _).map _).sum_nat, (h.filter _).length_eq]

/-- non-vacuity: the witness file's entries in file order and in another completion order -/
example : (entries true nv_blocks).Perm [⟨120, false, 2, 21⟩, ⟨0, true, 0, 0⟩, ⟨40, false, 3, 33⟩] ∧
    totals (entries true nv_blocks) = ⟨5, 54, 2, 1⟩ :=
  ⟨by decide, by decide⟩

/-- On clean completion `RowsMatched` equals the number of rows returned. -/
theorem rows_matched_is_rows_returned (hb : Bool) (bs : List SBlock) :
    (returned hb bs).length = rowsMatched hb bs := by
  unfold returned rowsMatched
  induction evaluated bs with
  | nil => rfl
  | cons b t ih =>
    simp only [List.flatMap_cons, List.length_append, List.map_cons, List.sum_cons, ih]
    cases blockStat hb b.q <;> simp

/-- **The totals as `Results.Stats` computes them** (its accumulation loop regenerated from the Go text on every
    run): for the entries of any query plan - where skipped entries report zero, `skipped_reports_zero` - the
    regenerated fold yields exactly the per-block sums and the two block counters, in whatever order the
    entries were recorded. -/
theorem totals_generated (hb : Bool) (bs : List SBlock) (es : List Entry) (hp : es.Perm (entries hb bs)) :
    Gen.statsTotals es =
      ((((entries hb bs).filter (!·.skipped)).map (·.rowsProcessed)).sum,
       (((entries hb bs).filter (!·.skipped)).map (·.bytesProcessed)).sum,
       ((entries hb bs).filter (!·.skipped)).length,
       ((entries hb bs).filter (·.skipped)).length) := by
  have hz : ∀ e ∈ es, e.skipped = true → e.rowsProcessed = 0 ∧ e.bytesProcessed = 0 :=
    fun e he hs => skipped_reports_zero hb bs e (hp.mem_iff.mp he) hs
  rw [Bridge.statsTotals_generated es hz, totals_order_independent es _ hp]
  obtain ⟨h1, h2, h3, h4⟩ := totals_are_sums (entries hb bs)
  simp [Bridge.totalsTuple, h1, h2, h3, h4]

/-- non-vacuity: the witness file's entries recorded in another completion order -/
example : Gen.statsTotals [⟨120, false, 2, 21⟩, ⟨0, true, 0, 0⟩, ⟨40, false, 3, 33⟩] = (5, 54, 2, 1) ∧
    ([⟨120, false, 2, 21⟩, ⟨0, true, 0, 0⟩, ⟨40, false, 3, 33⟩] : List Entry).Perm (entries true nv_blocks) :=
  ⟨by decide, by decide⟩

end BloomVerif.C23
