/-
  C03 — Returned rows faithfully reproduce the stored JSON and are independent.
  Value part: PARTIAL. The full statement ("equals the ingested row after a JSON round trip, for
  every row encoding/json can decode") is false of the unchanged code for rows that reach the engine
  through json.RawMessage with a duplicated object key (proved below with a witness, replayed on the
  implementation by the check, recorded as a known finding); it holds for rows without duplicated keys.
  Independence part: the model can only exhibit protocol order (no view or copy after the buffer is
  returned to the pool; deliveries come from copies); aliasing itself is a memory property, probed by
  the poisoned-pool run of the correspondence check.
-/
import BloomVerif.Lemmas.Value
namespace BloomVerif.C03

/-- For a row in which no object repeats a key, gjson's first-binding and encoding/json's
    last-binding materialisation coincide: they differ only in which binding of a repeated key they
    keep, so both return the tree itself (number parsing is not modelled). -/
theorem C03_fidelity_partial (t : J) (h : NoDupKeys t) : valueFirst t = valueLast t :=
  (value_id_J t h).1.trans (value_id_J t h).2.symm

/-- non-vacuity: a nested row (object in object, array of objects) without duplicated keys — "b" recurs only at different levels — is delivered as its round trip -/
example :
    let t : J := .obj [("a".toList, .obj [("b".toList, .num "1".toList), ("c".toList, .arr [.null, .obj [("b".toList, .bool true)]])]),
                       ("b".toList, .str "x".toList)]
    NoDupKeys t ∧ valueFirst t = valueLast t := by
  intro t
  have h : NoDupKeys t := by simp [t, NoDupKeys, NoDupKeysKV, NoDupKeysL]
  exact ⟨h, C03_fidelity_partial t h⟩

/-- The unguarded statement is false: a duplicated key is delivered with its first value while the
    JSON round trip yields the last. -/
theorem C03_fidelity_counterexample :
    ∃ t : J, valueFirst t ≠ valueLast t :=
  ⟨.obj [(['a'], .num ['1']), (['a'], .num ['2'])], by
    simp [valueFirst, valueLast, valueFirstKV, valueLastKV, dedupFirst, dedupLast]⟩

/-- `scanTrace` (get, fill, per row a view and at most a copy, the deliveries, one put) has no view,
    copy or fill of the buffer after its put, because the put is last (`processDataBlock` defers the
    release). Any put-free list followed by one put has this; aliasing is not modelled … -/
theorem scan_no_use_after_put (b : Nat) (matched : Nat → Bool) (n : Nat) :
    NoUseAfterPut b (scanTrace b matched n) := by
  apply noUseAfterPut_append_put
  intro op hop b'
  simp only [List.mem_append, List.mem_cons, List.not_mem_nil, or_false, mem_scanRowsOps, mem_deliveries] at hop
  rcases hop with ((rfl | rfl) | ⟨r, _, rfl | ⟨_, rfl⟩⟩) | ⟨r, _, _, rfl⟩ <;> nofun

/-- … and every row the trace delivers also occurs in it as a copy out of the buffer (membership
    only; the order is how `scanTrace` is laid out, not stated here). -/
theorem delivered_from_copy (b : Nat) (matched : Nat → Bool) (n : Nat) (r : Nat)
    (h : ScanOp.deliver r ∈ scanTrace b matched n) : ScanOp.copy b r ∈ scanTrace b matched n := by
  simp only [scanTrace, List.mem_append, List.mem_cons, List.not_mem_nil, or_false, mem_scanRowsOps, mem_deliveries] at h ⊢
  obtain (((h | h) | ⟨_, _, h | ⟨_, h⟩⟩) | ⟨r', hr, hm, h⟩) | h := h <;> cases h
  exact .inl (.inl (.inr ⟨r, hr, .inr ⟨hm, rfl⟩⟩))

/-- non-vacuity: in a five-row scan on buffer 7 where the odd rows match, row 3 is delivered (and was copied) -/
example :
    ScanOp.deliver 3 ∈ scanTrace 7 (fun i => i % 2 == 1) 5 ∧ ScanOp.copy 7 3 ∈ scanTrace 7 (fun i => i % 2 == 1) 5 :=
  ⟨by decide, delivered_from_copy 7 _ 5 3 (by decide)⟩

/-- non-vacuity of the hypothesis of `C03_fidelity_partial` -/
example : NoDupKeys (.obj [(['a'], .obj [(['b'], .num ['1']), (['c'], .arr [.null])]), (['b'], .str ['x'])]) := by
  simp [NoDupKeys, NoDupKeysKV, NoDupKeysL]

end BloomVerif.C03
