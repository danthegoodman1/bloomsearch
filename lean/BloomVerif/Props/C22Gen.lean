/-
  C22 on the code as regenerated from `query_results.go` (T-gen, `Bridge/Slot`): the semaphore slot's methods and
  the script of `Results.deliver`. `C22_bound` (Props/C22) is about worker phases; these theorems say that the
  real slot code makes the phases mean what the model takes them to mean.
-/
import BloomVerif.Bridge.Slot
namespace BloomVerif.C22
open BloomVerif.Bridge

/-- **Occupancy toggles, never nests (regenerated code)**: after any sequence of `acquire` / `release` calls on
    a slot, with any outcome of every wait, the slot has exactly one token in the semaphore if it is held and
    none otherwise. -/
theorem slot_tokens_generated (ops : List SlotOp) :
    (ops.foldl slotStep (false, 0)).2 = tok (ops.foldl slotStep (false, 0)).1 :=
  slot_conserves ops

/-- a sequence with a repeated acquire, a cancelled wait and a repeated release: the slot ends unheld with no
    token left behind, and in between (after the first two calls) it holds exactly one -/
example : ([.acquire .send, .acquire .send, .release, .release, .acquire .ctxDone] : List SlotOp).foldl slotStep (false, 0) = (false, 0) ∧
    ([.acquire .send, .acquire .send] : List SlotOp).foldl slotStep (false, 0) = (true, 1) := by
  decide

/-- **The bound on the regenerated code**: the semaphore is a channel of capacity `cap`, so the tokens in it
    never exceed `cap` (Go's channel semantics, trusted); every slot contributes `tok held` by
    `slot_tokens_generated`; hence at most `cap` slots are held at any time - and only a worker holding its
    slot reads from the DataStore (`C22_bound`). -/
theorem C22_bound_generated (slots : List (List SlotOp)) (cap : Nat)
    (hchan : ((slots.map (fun ops => (ops.foldl slotStep (false, 0)).2)).sum ≤ (cap : Int))) :
    ((slots.map (fun ops => (ops.foldl slotStep (false, 0)).1)).filter id).length ≤ cap := by
  apply held_le_cap
  have : (slots.map (fun ops => (ops.foldl slotStep (false, 0)).1)).map tok =
      slots.map (fun ops => (ops.foldl slotStep (false, 0)).2) := by
    simp only [List.map_map]
    apply List.map_congr_left
    intro ops _
    exact (slot_conserves ops).symm
  rw [this]
  exact hchan

/-- non-vacuity: the premise of `C22_bound_generated` holds for three slots on a two-slot semaphore, two of which
    got in while the third's wait was cancelled; the bound is attained -/
example :
    let slots : List (List SlotOp) := [[.acquire .send], [.acquire .send, .release, .acquire .send], [.acquire .ctxDone]]
    (slots.map (fun ops => (ops.foldl slotStep (false, 0)).2)).sum ≤ ((2 : Nat) : Int) ∧
    ((slots.map (fun ops => (ops.foldl slotStep (false, 0)).1)).filter id).length = 2 := by
  decide

/-- **A worker blocked on a slow consumer holds no slot (regenerated code)**: on its slow path `deliver` blocks
    on the row channel once, after `release`, and returns nil only with the slot re-acquired; its net effect on
    the semaphore is zero. -/
theorem deliver_blocks_unheld_generated :
    runDeliver Gen.deliverScript (true, 1) [] = ((true, 1), [false]) :=
  deliver_blocks_unheld

/-- `acquire` returns true exactly when the caller holds the slot afterwards, so a worker that proceeds to read
    holds one. -/
theorem acquire_true_iff_held_generated (held : Bool) (tokens : Int) (c : Gen.SelCase) :
    (Gen.slotAcquire held tokens c).2.2 = (Gen.slotAcquire held tokens c).1 := by
  cases held <;> cases c <;> rfl

end BloomVerif.C22
