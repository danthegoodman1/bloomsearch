/-
  C25 — Query expression trees mean what they say and survive serialization.
-/
import BloomVerif.Lemmas.ExprJson
namespace BloomVerif.C25

/-- `And(...)` (all three kinds), including its flattening: the conjunction of the arguments. -/
theorem and_flatten {C : Type} (leaf : C → Bool) (es : List (Expr C)) :
    Expr.eval leaf (mkAnd es) = es.all (Expr.eval leaf) :=
  Expr.eval_mkAnd leaf es

/-- `Or(...)` (all three kinds), including its flattening: the disjunction of the arguments. -/
theorem or_flatten {C : Type} (leaf : C → Bool) (es : List (Expr C)) :
    Expr.eval leaf (mkOr es) = es.any (Expr.eval leaf) := by
  rw [mkOr, Expr.eval_or]
  exact flatten_fold "OR" _ List.any (fun _ _ => List.any_flatMap) (fun _ => by simp) (Expr.eval_or leaf) es

/-- Builder chains: any call sequence evaluates as the fold "simple calls conjoin, Match assigns". -/
theorem builder_bloom_meaning (leaf : BloomCond → Bool) (ops : List BOp) :
    Expr.evalOpt leaf (builderQuery ops).2.1 = bloomMeaning leaf ops := by
  -- along the chain the bloom accumulator stands for what the fold has computed: every operation adds to it,
  -- sets it, or leaves it alone
  have H : (ops.foldl BState.step {}).bloomAcc.Means leaf (bloomMeaning leaf ops) :=
    List.foldl_rel (r := fun (s : BState) v => s.bloomAcc.Means leaf v) ⟨rfl, rfl⟩ fun op _ s _ h => by
      cases op with
      | field f | token t | fieldToken f t => exact (addBloom_accs s _).1 ▸ h.add _
      | matchB e => exact .set e
      | fieldRegex f p => exact (addRegex_accs s _).2.1 ▸ h
      | matchRegex e | matchPre e => exact h
  exact H.build

theorem builder_regex_meaning (leaf : RegexCond → Bool) (ops : List BOp) :
    Expr.evalOpt leaf (builderQuery ops).2.2 = regexMeaning leaf ops := by
  have H : (ops.foldl BState.step {}).regexAcc.Means leaf (regexMeaning leaf ops) :=
    List.foldl_rel (r := fun (s : BState) v => s.regexAcc.Means leaf v) ⟨rfl, rfl⟩ fun op _ s _ h => by
      cases op with
      | field f | token t | fieldToken f t => exact (addBloom_accs s _).2.1 ▸ h
      | fieldRegex f p => exact (addRegex_accs s _).1 ▸ h.add _
      | matchRegex e => exact .set e
      | matchB e | matchPre e => exact h
  exact H.build

theorem builder_prefilter_meaning (leaf : PreCond → Bool) (ops : List BOp) :
    Expr.evalOpt leaf (builderQuery ops).1 = preMeaning leaf ops :=
  List.foldl_rel (r := fun (s : BState) v => Expr.evalOpt leaf s.pre = v) rfl fun op _ s _ h => by
    cases op with
    | field f | token t | fieldToken f t => exact (addBloom_accs s _).2.2 ▸ h
    | fieldRegex f p => exact (addRegex_accs s _).2.2 ▸ h
    | matchPre e => rfl
    | matchB e | matchRegex e => exact h

/-- For regex trees built with the constructors, the engine's compile step preserves meaning. -/
theorem regex_compile_preserves (leaf : RegexCond → Bool) (e : RegexExpr) (h : Expr.Proper e) :
    Expr.evalOpt leaf (compileRx e) = Expr.eval leaf e := by
  obtain ⟨e', he, hev⟩ := compileRx_proper leaf e h
  rw [he]; exact hev

/-- non-vacuity: the premise of `regex_compile_preserves` holds for a constructor-built tree (an AND of a condition and an OR of two conditions), and the theorem applies to it -/
example :
    let e : RegexExpr := .mk "AND" none [.mk "CONDITION" (some ⟨['a'], ['x', '+']⟩) [],
      .mk "OR" none [.mk "CONDITION" (some ⟨['b'], ['y']⟩) [], .mk "CONDITION" (some ⟨['c', '.', 'd'], []⟩) []]]
    Expr.Proper e ∧ ∀ leaf, Expr.evalOpt leaf (compileRx e) = Expr.eval leaf e := by
  intro e
  have h : Expr.Proper e := by simp [e, Expr.Proper, Expr.ProperL]
  exact ⟨h, fun leaf => regex_compile_preserves leaf e h⟩

/-- JSON round trip of every bloom / regex / prefilter expression: decoded with fuel at least its depth, the
    encoded tree *is* the original tree - for all trees, including empty, nil-condition and unknown nodes,
    zero-valued operands and nil-vs-empty children. -/
theorem json_roundtrip_bloom (e : BloomExpr) (fuel : Nat) (hf : Expr.depth e ≤ fuel) :
    decExpr decBloomCond fuel (encExpr encBloomCond e) = some e :=
  rt_expr encBloomCond decBloomCond roundtrip_bloomCond (fun _ => ⟨_, rfl⟩) e fuel hf

/-- non-vacuity: the premise of `json_roundtrip_bloom` holds for a depth-3 tree (conditions of all three kinds, an empty AND, a nil condition) with fuel 4, and the theorem applies to it -/
example :
    let e : BloomExpr := .mk "OR" none [.mk "CONDITION" (some ⟨"FIELD", ['a', '.', 'b'], []⟩) [],
      .mk "AND" none [.mk "CONDITION" (some ⟨"TOKEN", [], ['t']⟩) [], .mk "CONDITION" (some ⟨"FIELD_TOKEN", ['k'], ['v']⟩) [],
        .mk "AND" none [], .mk "CONDITION" none []]]
    Expr.depth e = 3 ∧ Expr.depth e ≤ 4 ∧ decExpr decBloomCond 4 (encExpr encBloomCond e) = some e := by
  intro e
  have hd : Expr.depth e = 3 := by decide
  have h : Expr.depth e ≤ 4 := Nat.le_trans (Nat.le_of_eq hd) (by decide)
  exact ⟨hd, h, json_roundtrip_bloom e 4 h⟩

theorem json_roundtrip_regex (e : RegexExpr) (fuel : Nat) (hf : Expr.depth e ≤ fuel) :
    decExpr decRegexCond fuel (encExpr encRegexCond e) = some e :=
  rt_expr encRegexCond decRegexCond roundtrip_regexCond (fun _ => ⟨_, rfl⟩) e fuel hf

/-- non-vacuity: the premise of `json_roundtrip_regex` holds for a depth-3 tree (two conditions, a nested OR, a nil condition) with fuel exactly its depth, and the theorem applies to it -/
example :
    let e : RegexExpr := .mk "AND" none [.mk "CONDITION" (some ⟨['a'], ['x', '+']⟩) [],
      .mk "OR" none [.mk "CONDITION" (some ⟨['b'], ['y']⟩) [], .mk "CONDITION" none []]]
    Expr.depth e = 3 ∧ Expr.depth e ≤ 3 ∧ decExpr decRegexCond 3 (encExpr encRegexCond e) = some e := by
  intro e
  have hd : Expr.depth e = 3 := by decide
  exact ⟨hd, Nat.le_of_eq hd, json_roundtrip_regex e 3 (Nat.le_of_eq hd)⟩

theorem json_roundtrip_prefilter (e : PreExpr) (fuel : Nat) (hf : Expr.depth e ≤ fuel) :
    decExpr decPreCond fuel (encExpr encPreCond e) = some e :=
  rt_expr encPreCond decPreCond roundtrip_preCond (fun _ => ⟨_, rfl⟩) e fuel hf

/-- Non-vacuity: a nested tree with an empty Or, a nil condition, an unknown node and zero operands. -/
example :
    let e : PreExpr := .mk "AND" none [.mk "OR" none [], .mk "CONDITION" none [], .mk "XOR" none [],
      .mk "CONDITION" (some { ConditionType := "MINMAX", MinMaxFieldName := "k", MinMaxCondition := some ({ Operator := "EQ" } : NumericCondition) }) []]
    decExpr decPreCond 5 (encExpr encPreCond e) = some e := by
  intro e; exact json_roundtrip_prefilter e 5 (by decide)

end BloomVerif.C25
