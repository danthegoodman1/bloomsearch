/-
  C07 — Acknowledgements respect acceptance order (Flush is a durability barrier).
-/
import BloomVerif.Lemmas.Pipeline
namespace BloomVerif.C07
open BloomVerif.Pipeline

/-- FIFO chain: the request being written holds the oldest unanswered batches; what is queued
    behind it follows in acceptance order (this is `conservation` read as an order statement). -/
theorem fifo_chain (c : Cfg) (hc : 0 < c.maxRows) (s : St) (hr : Reachable c s)
    (r : FlushReq) (b : Bool) (hw : s.worker = some (r, b)) :
    ∃ post, unanswered s = r.waiters ++ post :=
  have _ := hc
  let ⟨post, h⟩ := worker_front hw
  ⟨post, (reachable_core c s hr).ledger.chain_eq ▸ h.symm⟩

/-- Witness trace for the non-vacuity examples: seven accepted batches; batch 2 was rejected by the actor,
    batches 1 and 3 are being written, 4 is in the flush channel, 5 is parked, 6 and 7 wait in the ingest channel. -/
private def nv_busy : List Ev :=
  [.accept ⟨1, .rows 1⟩, .start, .accept ⟨2, .bad⟩, .actorRecv 1, .actorRecv 2, .accept ⟨3, .rows 1⟩, .actorRecv 3,
   .flushTrigger, .enqueued, .workerTake, .flushBegin, .accept ⟨4, .force⟩, .actorRecv 4, .flushTrigger, .enqueued,
   .accept ⟨5, .force⟩, .actorRecv 5, .flushTrigger, .accept ⟨6, .rows 3⟩, .accept ⟨7, .empty⟩]

theorem nv_busy_reach : Reachable ⟨2, 2⟩ busy := ⟨nv_busy, by rfl⟩

/-- non-vacuity: the premises of `fifo_chain` hold for a reachable state whose worker writes a two-waiter request
    while four more batches are queued behind it -/
example : ∃ s r b, 0 < (⟨2, 2⟩ : Cfg).maxRows ∧ Reachable ⟨2, 2⟩ s ∧ s.worker = some (r, b) ∧
    r.waiters = [1, 3] ∧ unanswered s = [1, 3] ++ [4, 5, 6, 7] :=
  ⟨busy, _, _, by decide, nv_busy_reach, rfl, rfl, by decide⟩

/-- non-vacuity: `fifo_chain` applied to that state -/
example : ∃ s, Reachable ⟨2, 2⟩ s ∧ ∃ post, unanswered s = [1, 3] ++ post :=
  ⟨busy, nv_busy_reach, fifo_chain ⟨2, 2⟩ (by decide) _ nv_busy_reach ⟨[1, 3], true⟩ true rfl⟩

/-- **C07**: when the flush worker answers a request (with nil or with an error), every batch
    accepted before any of its waiters has been answered by the end of that step (earlier waiters of
    the same request in that very step). A `Flush` call is one of the waiters, so it is a barrier for
    everything accepted before it, including flushes queued or in flight when it was called. -/
theorem C07_order (c : Cfg) (hc : 0 < c.maxRows) (s s' : St) (ok : Bool) (hr : Reachable c s)
    (hs : step c s (.flushDone ok) = some s') :
    ∀ r b, s.worker = some (r, b) → ∀ w ∈ r.waiters, ∀ pre post, s.accepted = pre ++ w :: post →
      ∀ a ∈ pre, a ∈ answeredIds s' := by
  intro r b hw w hwr pre post hacc a ha
  have _ := hc
  have h := (reachable_core c s hr).ledger.before (worker_front hw) hwr hacc ha
  cases step_sound hs
  case flushDone r' hw' =>
    cases hw.symm.trans hw'
    simp only [answeredIds, List.map_append, List.map_map, Function.comp_def, List.map_id', List.mem_append]
    exact h

/-- non-vacuity: all premises of `C07_order` (outer and inner) hold together: in the state above the worker
    finishes with nil, and waiter 3 was accepted after batches 1 and 2 -/
example : ∃ s s' r b w pre post a, 0 < (⟨2, 2⟩ : Cfg).maxRows ∧ Reachable ⟨2, 2⟩ s ∧
    step ⟨2, 2⟩ s (.flushDone true) = some s' ∧ s.worker = some (r, b) ∧ w ∈ r.waiters ∧
    s.accepted = pre ++ w :: post ∧ a ∈ pre ∧ pre = [1, 2] ∧ answeredIds s' = [2, 1, 3] :=
  ⟨busy, _, ⟨[1, 3], true⟩, true, 3, [1, 2], [4, 5, 6, 7], 1, by decide, nv_busy_reach, rfl, rfl, by decide, rfl,
   by decide, rfl, rfl⟩

/-- non-vacuity: `C07_order` applied to that step with an error outcome: batch 2 (answered earlier by the actor)
    and batch 1 (answered in this step) precede waiter 3 and are answered -/
example : ∃ s s', Reachable ⟨2, 2⟩ s ∧ step ⟨2, 2⟩ s (.flushDone false) = some s' ∧
    1 ∈ answeredIds s' ∧ 2 ∈ answeredIds s' :=
  have h := C07_order ⟨2, 2⟩ (by decide) busy _ false nv_busy_reach rfl ⟨[1, 3], true⟩ true rfl 3 (by decide)
    [1, 2] [4, 5, 6, 7] rfl
  ⟨busy, _, nv_busy_reach, rfl, h 1 (by decide), h 2 (by decide)⟩

end BloomVerif.C07
