/-
  C14 — Queries concurrent with flushes and merges see a consistent snapshot. Machine-checked for
  MemoryMetaStore; for FileSystemDataStore used as MetaStore the statement is false of the unchanged
  code (two witnesses below, replayed on the implementation by the check; known findings); what is
  proved for it is the part without removals (no tombstone event).
-/
import BloomVerif.Lemmas.Snapshot
namespace BloomVerif.C14
open BloomVerif.Snapshot

/-- MemoryMetaStore, every interleaving of publishes, flush commits, merge commits, tombstones and the
    steps of a query: a query that finishes with a nil error returns no row twice, returns every
    matching row acknowledged before it started, and returns only acknowledged (ingested) matching rows. -/
theorem C14_memory (m : Row → Bool) (evs : List Ev) (s : St) (q : Query)
    (hrun : Mem.run m {} evs = some s) (hq : finishedOk s = some q) :
    q.got.Nodup ∧
    (∀ r, r ∈ q.ackedAtStart → m r = true → r ∈ q.got) ∧
    (∀ r, r ∈ q.got → r ∈ s.acked ∧ m r = true) := by
  have hi := (Mem.iterates m).inv (MemInv m) (MemInv.step m) (MemInv.init m) hrun
  obtain ⟨hsq, hsnap, htodo, herr⟩ := finishedOk_spec s q hq
  obtain ⟨A, hA⟩ := hi.qinv q hsq herr
  -- with nothing left to open, `got` is the matching rows of the ledger
  have g' := hA.got_perm hsnap
  rw [htodo] at g'
  simp only [snap_rows, List.flatMap_nil, List.filter_nil, List.append_nil] at g'
  refine ⟨?_, ?_, ?_⟩
  · exact (g'.nodup_iff).2 (List.Nodup.sublist (List.filter_sublist.trans hA.sub) hi.acked_nodup)
  · intro r hr hm
    exact (g'.mem_iff).2 (List.mem_filter.2 ⟨hA.start_in r hr, hm⟩)
  · intro r hr
    have := List.mem_filter.1 ((g'.mem_iff).1 hr)
    exact ⟨hA.sub.subset this.1, this.2⟩

/-- The hypotheses are satisfiable by a history with a merge between the query's start and its snapshot … -/
example : ∃ s q, Mem.run (fun _ => true) {}
    [.publish 1 [10], .commitFlush 1, .publish 2 [20], .commitFlush 2, .qBegin,
     .publish 3 [10, 20], .commitMerge [3] [1, 2], .qSnap, .qOpen 3, .tombstone 1, .tombstone 2] = some s ∧
    finishedOk s = some q ∧ q.got = [10, 20] := mem_same_schedules_aux.2

/-- … and where the merge removes a file the query still needed, the query reports an error. -/
example : ∃ s q, Mem.run (fun _ => true) {}
    [.publish 1 [10], .commitFlush 1, .publish 2 [20], .commitFlush 2, .qBegin, .qSnap,
     .publish 3 [10, 20], .commitMerge [3] [1, 2], .tombstone 1, .tombstone 2, .qOpen 1, .qOpen 2] = some s ∧
    s.q = some q ∧ q.err = true := mem_same_schedules_aux.1

private def nv_memEvs : List Ev :=
  [.publish 1 [10, 11], .commitFlush 1, .publish 2 [20], .commitFlush 2, .qBegin,
   .publish 3 [10, 11, 20], .commitMerge [3] [1, 2], .qSnap, .tombstone 1, .qOpen 3]

/-- non-vacuity of `C14_memory`: two flushes, a merge committed between the query's start and its snapshot, a
    tombstone before the read, a selective predicate -/
example : ∃ s q, Mem.run (fun r => r != 20) {} nv_memEvs = some s ∧
    finishedOk s = some q ∧ q.ackedAtStart = [10, 11, 20] ∧ q.got = [10, 11] ∧
    (q.got.Nodup ∧ (∀ r, r ∈ q.ackedAtStart → (r != 20) = true → r ∈ q.got) ∧
      (∀ r, r ∈ q.got → r ∈ s.acked ∧ (r != 20) = true)) :=
  ⟨_, _, rfl, rfl, rfl, rfl, C14_memory (fun r => r != 20) nv_memEvs _ _ rfl rfl⟩

/-- Directory as MetaStore, histories without removals: nothing acknowledged before the query is omitted. -/
theorem C14_directory_partial (m : Row → Bool) (evs : List Ev) (s : St) (q : Query)
    (hnorm : ∀ e ∈ evs, (∀ f, e ≠ .tombstone f))
    (hrun : Dir.run m {} evs = some s) (hq : finishedOk s = some q) :
    (∀ r, r ∈ q.ackedAtStart → m r = true → r ∈ q.got) := by
  have hi := ((Dir.iterates m).induct (DirInv m) (fun e => ∀ f, e ≠ .tombstone f) (fun _ => True)
    (fun s e s' hnt hi h => ⟨DirInv.step m s e s' hnt hi h, trivial⟩) hnorm (DirInv.init m) hrun).1
  obtain ⟨hsq, hsnap, htodo, herr⟩ := finishedOk_spec s q hq
  intro r hr hm
  rcases hi.unread q hsq r hr hm with hb | ⟨g, _, _, hg⟩
  · exact hb
  · have := hg hsnap
    rw [htodo] at this; cases this

private def nv_dirEvs : List Ev :=
  [.publish 1 [10, 11], .commitFlush 1, .publish 2 [20], .commitFlush 2, .qBegin,
   .publish 3 [30], .commitFlush 3, .qSnap, .publish 4 [10, 11, 20], .commitMerge [4] [1, 2],
   .qOpen 1, .qOpen 2, .qOpen 3]

/-- non-vacuity of `C14_directory_partial`: two flushes before the query, a third flush and a merge publication
    during it, no removal -/
example : ∃ s q, (∀ e ∈ nv_dirEvs, (∀ f, e ≠ Ev.tombstone f)) ∧ Dir.run (fun r => r != 20) {} nv_dirEvs = some s ∧
    finishedOk s = some q ∧ q.ackedAtStart = [10, 11, 20] ∧ q.got = [10, 11, 30] ∧
    (∀ r, r ∈ q.ackedAtStart → (r != 20) = true → r ∈ q.got) :=
  have hn : ∀ e ∈ nv_dirEvs, (∀ f, e ≠ Ev.tombstone f) := by
    intro e he f h; subst h; simp [nv_dirEvs] at he
  ⟨_, _, hn, rfl, rfl, rfl, rfl, C14_directory_partial (fun r => r != 20) nv_dirEvs _ _ hn rfl rfl⟩

/-- The full statement is false for the directory discipline: silent omission … -/
theorem C14_directory_omission :
    let evs : List Ev := [.publish 1 [10], .commitFlush 1, .publish 2 [20], .commitFlush 2, .qBegin, .qSnap,
      .publish 3 [10, 20], .commitMerge [3] [1, 2], .tombstone 1, .tombstone 2, .qOpen 1, .qOpen 2]
    ∃ s q, Dir.run (fun _ => true) {} evs = some s ∧ finishedOk s = some q ∧ q.ackedAtStart = [10, 20] ∧ q.got = [] := by
  refine ⟨_, _, rfl, rfl, rfl, rfl⟩

/-- … and silent duplication. -/
theorem C14_directory_duplication :
    let evs : List Ev := [.publish 1 [10], .commitFlush 1, .publish 2 [20], .commitFlush 2, .qBegin,
      .publish 3 [10, 20], .commitMerge [3] [1, 2], .qSnap, .qOpen 1, .qOpen 2, .qOpen 3, .tombstone 1, .tombstone 2]
    ∃ s q, Dir.run (fun _ => true) {} evs = some s ∧ finishedOk s = some q ∧ q.got = [10, 20, 10, 20] := by
  refine ⟨_, _, rfl, rfl, rfl⟩

end BloomVerif.C14
