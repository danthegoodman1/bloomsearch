/-
  C15 — The filesystem store is crash-consistent. PARTIAL: proved for flushes and aborted flushes
  (every filesystem mutation boundary, process crash and power loss); for merges with
  FileSystemDataStore as MetaStore the statement is false of the unchanged code (witnesses proved
  below, replayed on the implementation by the check, recorded as a known finding).
-/
import BloomVerif.Lemmas.CrashHistory
namespace BloomVerif.C15
open BloomVerif.FSStore BloomVerif.Crash

/-- Distinct base names are all the history theorems need: `GoodNames` follows. -/
theorem goodNames_of_nodup : ∀ fs : List Flush, (fs.map (·.base)).Nodup → GoodNames fs
  | [], _ => trivial
  | f :: rest, h => by
    obtain ⟨hn, hr⟩ := List.nodup_cons.mp h
    refine ⟨dat_ne_tmp _ _, fun g hg => ?_, goodNames_of_nodup rest hr⟩
    have hne : g.base ≠ f.base := fun e => hn (List.mem_map.mpr ⟨g, hg, e⟩)
    exact ⟨namesApart_of_ne hne, namesApart_of_ne hne.symm⟩

/-- At every mutation boundary of a flush, after a process crash or a power loss, the pointer's final
    name is absent, an empty reservation or the complete file, never a partial one. (That a directory
    scan does not accept the 0-byte reservation is not part of the statement.) -/
theorem C15_flush_partial (c : CFS) (b : String) (chunks : List Bytes) (n : Nat) (r : Recovered)
    (hb : dat b ≠ tmp b) (hf : FreshFor c b)
    (hp : PowerLoss (run c ((flushOps b chunks).take n)) r ∨ r = processCrash (run c ((flushOps b chunks).take n))) :
    recoveredDat r b = none ∨ recoveredDat r b = some [] ∨ recoveredDat r b = some chunks.flatten := by
  have _ := hb
  rcases (crash_all_spec _ _ c _ (crash_flush_all b chunks c hf)).1 n with h | h
  · exact (crash_Empty_crashed b _ r h hp).imp_right Or.inl
  · exact (crash_Complete_crashed b _ _ r h hp).imp_right Or.inr

/-- witness directory: it already holds one flushed, durable file -/
private def nv_c0 : CFS := run {} (flushOps "s1" [[7]])
/-- witness power loss: every name reverts to the last directory fsync, every inode to its fsynced prefix -/
private def nv_revert (c : CFS) : Recovered := ⟨c.dur, fun i => (c.cur.data i).take (syncedLen c i)⟩
/-- witness power loss: the current names survive, but of every inode only its fsynced prefix -/
private def nv_torn (c : CFS) : Recovered := ⟨c.cur.names, fun i => (c.cur.data i).take (syncedLen c i)⟩

theorem nv_c0_fresh : FreshFor nv_c0 "out" :=
  Pre.fresh ⟨"out", [], true⟩ [] nv_c0
    (Pre.next ⟨"s1", [[7]], true⟩ _ {} 6 (goodNames_of_nodup _ (by decide)) (Pre.empty _))

/-- the hypothesis is in the form `decide` checks on a concrete directory -/
theorem syncedLen_le (c : CFS) (h : ∀ x ∈ c.synced, x.2 ≤ (c.cur.data x.1).length) (i : Nat) :
    syncedLen c i ≤ (c.cur.data i).length := by
  unfold syncedLen
  cases hl : c.synced.lookup i with
  | none => exact Nat.zero_le _
  | some v => exact h (i, v) (List.mem_of_lookup_eq_some hl)

theorem powerLoss_revert (c : CFS) (h : ∀ i, syncedLen c i ≤ (c.cur.data i).length) : PowerLoss c (nv_revert c) :=
  ⟨fun _ _ h => Or.inr h, fun _ h => h.symm, fun i => ⟨_, Nat.le_refl _, h i, rfl⟩⟩

theorem powerLoss_torn (c : CFS) (h : ∀ i, syncedLen c i ≤ (c.cur.data i).length) : PowerLoss c (nv_torn c) :=
  ⟨fun _ _ h => Or.inl h, fun _ _ => rfl, fun i => ⟨_, Nat.le_refl _, h i, rfl⟩⟩

/-- non-vacuity of `C15_flush_partial`: the cut lies after the rename and before the directory fsync, the power
    loss reverts the names; the pointer is then absent -/
example : ∃ r, dat "out" ≠ tmp "out" ∧ FreshFor nv_c0 "out" ∧
    PowerLoss (run nv_c0 ((flushOps "out" [[1, 2], [3]]).take 6)) r ∧
    (PowerLoss (run nv_c0 ((flushOps "out" [[1, 2], [3]]).take 6)) r ∨
      r = processCrash (run nv_c0 ((flushOps "out" [[1, 2], [3]]).take 6))) ∧
    recoveredDat r "out" = none := by
  have hp := powerLoss_revert (run nv_c0 ((flushOps "out" [[1, 2], [3]]).take 6)) (syncedLen_le _ (by decide))
  exact ⟨_, dat_ne_tmp _ _, nv_c0_fresh, hp, Or.inl hp, by decide⟩

/-- the process-crash disjunct at the same cut: the complete file is seen -/
example : recoveredDat (processCrash (run nv_c0 ((flushOps "out" [[1, 2], [3]]).take 6))) "out" = some [1, 2, 3] := by decide

/-- After the whole flush protocol, through the directory fsync, every power-loss state holds the complete
    file. The engine acknowledges a batch only after Close has returned, that is after this point: an
    acknowledged row survives. -/
theorem acknowledged_rows_survive (c : CFS) (b : String) (chunks : List Bytes) (r : Recovered)
    (hb : dat b ≠ tmp b) (hf : FreshFor c b) (hp : PowerLoss (run c (flushOps b chunks)) r) :
    recoveredDat r b = some chunks.flatten :=
  have _ := hb
  crash_Final_crashed b _ _ r (crash_all_spec _ _ c _ (crash_flush_all b chunks c hf)).2 (Or.inl hp)

/-- non-vacuity of `acknowledged_rows_survive`, under the most destructive power loss (names revert to the last
    directory fsync, data to the fsynced prefix) -/
example : ∃ r, dat "out" ≠ tmp "out" ∧ FreshFor nv_c0 "out" ∧
    PowerLoss (run nv_c0 (flushOps "out" [[1, 2], [3]])) r ∧ recoveredDat r "out" = some [1, 2, 3] := by
  have hp := powerLoss_revert (run nv_c0 (flushOps "out" [[1, 2], [3]])) (syncedLen_le _ (by decide))
  exact ⟨_, dat_ne_tmp _ _, nv_c0_fresh, hp,
    acknowledged_rows_survive nv_c0 "out" [[1, 2], [3]] _ (dat_ne_tmp _ _) nv_c0_fresh hp⟩

/-- At every mutation boundary of an aborted flush a power loss leaves the final name absent or empty: no
    row of a batch that was answered with an error appears. -/
theorem aborted_flush_invisible (c : CFS) (b : String) (chunks : List Bytes) (n : Nat) (r : Recovered)
    (hb : dat b ≠ tmp b) (hf : FreshFor c b)
    (hp : PowerLoss (run c ((abortedFlushOps b chunks).take n)) r) :
    recoveredDat r b = none ∨ recoveredDat r b = some [] :=
  have _ := hb
  crash_Empty_crashed b _ r ((crash_all_spec _ _ c _ (crash_abort_all b chunks c hf)).1 n) (Or.inl hp)

/-- non-vacuity of `aborted_flush_invisible`: aborted after both writes, cut before the removals, a power loss
    that keeps the names and drops unsynced data; the pointer is an empty reservation -/
example : ∃ r, dat "out" ≠ tmp "out" ∧ FreshFor nv_c0 "out" ∧
    PowerLoss (run nv_c0 ((abortedFlushOps "out" [[1, 2], [3]]).take 4)) r ∧ recoveredDat r "out" = some [] := by
  have hp := powerLoss_torn (run nv_c0 ((abortedFlushOps "out" [[1, 2], [3]]).take 4)) (syncedLen_le _ (by decide))
  exact ⟨_, dat_ne_tmp _ _, nv_c0_fresh, hp, by decide⟩

/-- The same for the whole failure path the engine drives, Abort followed by TombstoneFile, and for either
    kind of crash. -/
theorem failed_flush_invisible (c : CFS) (b : String) (chunks : List Bytes) (n : Nat) (r : Recovered)
    (hb : dat b ≠ tmp b) (hf : FreshFor c b)
    (hp : PowerLoss (run c ((failedFlushOps b chunks).take n)) r ∨ r = processCrash (run c ((failedFlushOps b chunks).take n))) :
    recoveredDat r b = none ∨ recoveredDat r b = some [] :=
  have _ := hb
  crash_Empty_crashed b _ r ((crash_all_spec _ _ c _ (crash_failed_all b chunks c hf)).1 n) hp

/-- `C15_flush_partial`, `acknowledged_rows_survive` and `failed_flush_invisible` with the side condition on
    the names discharged. -/
theorem C15_flush_partial' (c : CFS) (b : String) (chunks : List Bytes) (n : Nat) (r : Recovered) (hf : FreshFor c b)
    (hp : PowerLoss (run c ((flushOps b chunks).take n)) r ∨ r = processCrash (run c ((flushOps b chunks).take n))) :
    recoveredDat r b = none ∨ recoveredDat r b = some [] ∨ recoveredDat r b = some chunks.flatten :=
  C15_flush_partial c b chunks n r (dat_ne_tmp b b) hf hp

theorem acknowledged_rows_survive' (c : CFS) (b : String) (chunks : List Bytes) (r : Recovered) (hf : FreshFor c b)
    (hp : PowerLoss (run c (flushOps b chunks)) r) : recoveredDat r b = some chunks.flatten :=
  acknowledged_rows_survive c b chunks r (dat_ne_tmp b b) hf hp

theorem failed_flush_invisible' (c : CFS) (b : String) (chunks : List Bytes) (n : Nat) (r : Recovered) (hf : FreshFor c b)
    (hp : PowerLoss (run c ((failedFlushOps b chunks).take n)) r ∨ r = processCrash (run c ((failedFlushOps b chunks).take n))) :
    recoveredDat r b = none ∨ recoveredDat r b = some [] :=
  failed_flush_invisible c b chunks n r (dat_ne_tmp b b) hf hp

/-- Over whole histories: run any sequence of successful and failed flushes with distinct names from the
    empty directory and stop at ANY filesystem mutation boundary `n`. Every flush that completed before
    that boundary is bound, currently and durably, to its complete fsynced content there … -/
theorem C15_history_acknowledged_durable (fs : List Flush) (k n : Nat) (f : Flush)
    (hg : GoodNames fs) (hk : k ≤ fs.length) (hn : (historyOps (fs.take k)).length ≤ n)
    (hmem : f ∈ fs.take k) (hok : f.ok = true) :
    crash_Final f.base f.chunks.flatten (run {} ((historyOps fs).take n)) := by
  have _ := hk
  exact final_of_completed fs {} k n f hg (Pre.empty fs) hn hmem hok

/-- … hence survives a process crash and every power-loss state at that boundary … -/
theorem C15_history_survives_crash (fs : List Flush) (k n : Nat) (f : Flush) (r : Recovered)
    (hg : GoodNames fs) (hk : k ≤ fs.length) (hn : (historyOps (fs.take k)).length ≤ n)
    (hmem : f ∈ fs.take k) (hok : f.ok = true)
    (hp : PowerLoss (run {} ((historyOps fs).take n)) r ∨ r = processCrash (run {} ((historyOps fs).take n))) :
    recoveredDat r f.base = some f.chunks.flatten :=
  crash_Final_crashed f.base _ _ r (C15_history_acknowledged_durable fs k n f hg hk hn hmem hok) hp

/-- … and after a power loss at any boundary of the history a flush that failed has no content under its
    final name. -/
theorem C15_history_failed_invisible (fs : List Flush) (n : Nat) (f : Flush) (r : Recovered)
    (hg : GoodNames fs) (hmem : f ∈ fs) (hok : f.ok = false)
    (hp : PowerLoss (run {} ((historyOps fs).take n)) r) :
    recoveredDat r f.base = none ∨ recoveredDat r f.base = some [] :=
  crash_Empty_crashed f.base _ r (empty_of_failed fs {} n f hg (Pre.empty fs) hmem hok) (Or.inl hp)

theorem nv_history_good : GoodNames crashH_exampleHistory := goodNames_of_nodup _ (by decide)

example : GoodNames crashH_exampleHistory := nv_history_good

/-- the boundary 17 lies inside the third flush (the first two take 7 + 7 operations); the first flush is complete there -/
example : crash_Final "a" [1, 2] (run {} ((historyOps crashH_exampleHistory).take 17)) :=
  C15_history_acknowledged_durable crashH_exampleHistory 2 17 ⟨"a", [[1], [2]], true⟩
    nv_history_good (by decide) (by decide) (.head _) rfl

example : crash_Empty "b" (run {} ((historyOps crashH_exampleHistory).take 17)) :=
  empty_of_failed _ {} 17 ⟨"b", [[3]], false⟩ nv_history_good (Pre.empty _) (.tail _ (.head _)) rfl

/-- non-vacuity of `failed_flush_invisible`: cut after Abort removed the temp file, a power loss that keeps the
    names and drops unsynced data; the pointer is an empty reservation -/
example : ∃ r, dat "out" ≠ tmp "out" ∧ FreshFor nv_c0 "out" ∧
    (PowerLoss (run nv_c0 ((failedFlushOps "out" [[1, 2], [3]]).take 5)) r ∨
      r = processCrash (run nv_c0 ((failedFlushOps "out" [[1, 2], [3]]).take 5))) ∧
    recoveredDat r "out" = some [] := by
  have hp := powerLoss_torn (run nv_c0 ((failedFlushOps "out" [[1, 2], [3]]).take 5)) (syncedLen_le _ (by decide))
  exact ⟨_, dat_ne_tmp _ _, nv_c0_fresh, Or.inl hp, by decide⟩

/-- The full statement is false for merges: a crash in the window between publishing the output and
    removing the sources shows every merged row twice … -/
theorem C15_merge_counterexample :
    let c0 := run {} (flushOps "s1" [[1]] ++ flushOps "s2" [[2]])
    let ops := mergeCommitOps "out" [[1, 2]] ["s1", "s2"]
    let r := processCrash (run c0 (ops.take (flushOps "out" [[1, 2]]).length))
    recoveredDat r "out" = some [1, 2] ∧ recoveredDat r "s1" = some [1] ∧ recoveredDat r "s2" = some [2] := by
  decide

/-- … and once the merge has returned, the current view has dropped the sources while the durable view still
    binds them next to the output: the removals are not followed by a directory fsync. (The statement is
    about the two views; it constructs no `PowerLoss` state.) -/
theorem C15_merge_power_loss_counterexample :
    let c := run {} (flushOps "s1" [[1]] ++ flushOps "s2" [[2]] ++ mergeCommitOps "out" [[1, 2]] ["s1", "s2"])
    c.cur.lookup (dat "s1") = none ∧ c.dur.lookup (dat "s1") ≠ none ∧ c.dur.lookup (dat "out") ≠ none := by
  decide

end BloomVerif.C15
