/-
  C08 / C09 on the code as regenerated from `ingest.go` (T-gen, `Generated/Accept`): how `IngestRows` and `Flush`
  accept a request. The pipeline LTS (Props/C05, C08, C09) takes "accept = the request is on the ingest channel,
  and only while the engine is not stopped" as a step; these theorems say the real entry points do exactly that.
-/
import BloomVerif.Generated.Accept
namespace BloomVerif.C08

/-- **Accepted iff queued (regenerated code)**: `IngestRows` returns nil exactly when it has put the request on
    the ingest channel, and it puts at most one; there is no path that reports acceptance without queueing (the
    bounded backlog of C09 counts queued requests) and none that queues but reports a failure. -/
theorem ingest_nil_iff_queued_generated (stopped : Bool) (w : Gen.AcceptCase) :
    (Gen.ingestRows stopped w).queued ≤ 1 ∧
    ((Gen.ingestRows stopped w).ret = .nil ↔ (Gen.ingestRows stopped w).queued = 1) := by
  cases stopped <;> cases w <;> decide

/-- **Stop refuses (regenerated code)**: once the stopped flag is set, `IngestRows` and `Flush` return
    `ErrEngineStopped` and queue nothing, whatever the channel or the caller's context would have allowed. -/
theorem stopped_refuses_generated (w : Gen.AcceptCase) :
    (Gen.ingestRows true w).ret = .stopped ∧ (Gen.ingestRows true w).queued = 0 ∧
    (Gen.flushCall true w).ret = .stopped ∧ (Gen.flushCall true w).queued = 0 := by
  cases w <;> decide

/-- **The flag and the send are under the state lock (regenerated code)**: on every path the stopped flag is
    read, and the request queued, while the read lock is held (what `Stop`, which sets the flag under the write
    lock, relies on not to miss an accepted request), and the lock is released when the call returns. -/
theorem accept_under_lock_generated (stopped : Bool) (w : Gen.AcceptCase) :
    (Gen.ingestRows stopped w).stoppedReadLocked = true ∧ (Gen.ingestRows stopped w).sendLocked = true ∧
    (Gen.ingestRows stopped w).lockedAfter = false ∧
    (Gen.flushCall stopped w).stoppedReadLocked = true ∧ (Gen.flushCall stopped w).sendLocked = true ∧
    (Gen.flushCall stopped w).lockedAfter = false := by
  cases stopped <;> cases w <;> decide

/-- `Flush` returns its acknowledgement exactly when its request was queued, and queues at most one. -/
theorem flush_waits_iff_queued_generated (stopped : Bool) (w : Gen.AcceptCase) :
    (Gen.flushCall stopped w).queued ≤ 1 ∧
    ((Gen.flushCall stopped w).ret = .ack ↔ (Gen.flushCall stopped w).queued = 1) := by
  cases stopped <;> cases w <;> decide

end BloomVerif.C08
