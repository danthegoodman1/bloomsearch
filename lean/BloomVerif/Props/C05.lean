/-
  C05 — Every accepted batch is answered exactly once (safety part; the "caller keeps receiving"
  clause is liveness and is monitored on the implementation, see DESIGN.md).
  Quantifies over every event sequence of the pipeline LTS: any interleaving of callers, the ingest
  actor, the flush worker, store outcomes, Start and Stop with or without deadline.
-/
import BloomVerif.Lemmas.Pipeline
namespace BloomVerif.C05
open BloomVerif.Pipeline

/-- Conservation: in every reachable state each accepted batch is either answered or sits in
    exactly one place of the pipeline; nothing is silently dropped. -/
theorem conservation (c : Cfg) (hc : 0 < c.maxRows) (s : St) (hr : Reachable c s) :
    chain s = unanswered s ∧ (chain s).Nodup := by
  have _ := hc
  have h := (reachable_core c s hr).ledger
  exact ⟨h.chain_eq, h.fresh.sublist h.order⟩

/-- Witness trace for the non-vacuity examples: seven accepted batches (rows, bad, force, empty); one
    answered by the actor, the others spread over the worker, the flush channel, the parked request
    and the ingest channel. -/
private def nv_busy : List Ev :=
  [.accept ⟨1, .rows 1⟩, .start, .accept ⟨2, .bad⟩, .actorRecv 1, .actorRecv 2, .accept ⟨3, .rows 1⟩, .actorRecv 3,
   .flushTrigger, .enqueued, .workerTake, .flushBegin, .accept ⟨4, .force⟩, .actorRecv 4, .flushTrigger, .enqueued,
   .accept ⟨5, .force⟩, .actorRecv 5, .flushTrigger, .accept ⟨6, .rows 3⟩, .accept ⟨7, .empty⟩]

theorem nv_busy_reach : Reachable ⟨2, 2⟩ busy := ⟨nv_busy, by rfl⟩

/-- non-vacuity: the premises of `conservation` hold for a mid-flight state -/
example : ∃ s, 0 < (⟨2, 2⟩ : Cfg).maxRows ∧ Reachable ⟨2, 2⟩ s ∧
    s.accepted = [1, 2, 3, 4, 5, 6, 7] ∧ answeredIds s = [2] ∧ chain s = [1, 3, 4, 5, 6, 7] :=
  ⟨busy, by decide, nv_busy_reach, rfl, rfl, rfl⟩

/-- non-vacuity: `conservation` applied to that state -/
example : ∃ s, Reachable ⟨2, 2⟩ s ∧ unanswered s = [1, 3, 4, 5, 6, 7] ∧ (chain s = unanswered s ∧ (chain s).Nodup) :=
  ⟨busy, nv_busy_reach, by decide, conservation ⟨2, 2⟩ (by decide) _ nv_busy_reach⟩

/-- No batch is answered twice, and only accepted batches are answered. -/
theorem answered_at_most_once (c : Cfg) (hc : 0 < c.maxRows) (s : St) (hr : Reachable c s) :
    (answeredIds s).Nodup ∧ ∀ a ∈ answeredIds s, a ∈ s.accepted :=
  have _ := hc
  (reachable_core c s hr).ledger.answered

/-- non-vacuity: the premises of `answered_at_most_once` hold after a flush answered two batches and the actor a third -/
example : ∃ s, 0 < (⟨2, 2⟩ : Cfg).maxRows ∧ Reachable ⟨2, 2⟩ s ∧
    s.answered = [(2, false), (1, true), (3, true)] ∧ s.accepted = [1, 2, 3, 4, 5, 6, 7] :=
  ⟨_, by decide, (nv_busy_reach.append [.flushDone true] rfl), rfl, rfl⟩

/-- non-vacuity: `answered_at_most_once` applied to that state -/
example : ∃ s, answeredIds s = [2, 1, 3] ∧ ((answeredIds s).Nodup ∧ ∀ a ∈ answeredIds s, a ∈ s.accepted) :=
  ⟨_, rfl, answered_at_most_once ⟨2, 2⟩ (by decide) _ (nv_busy_reach.append [.flushDone true] rfl)⟩

/-- **Graceful stop**: if Stop returned nil, an answer has been issued for every accepted batch —
    including batches accepted before Start, racing with Stop, empty batches and rejected batches, and
    including an engine that was never started. The model's `answered` records that the value was sent,
    or the send attempted, on the batch's done channel (`sendToChannelsWithContext`): a send abandoned
    because the caller had gone or the flush context was cancelled counts, and a nil channel too. -/
theorem C05_graceful_stop (c : Cfg) (hc : 0 < c.maxRows) (s : St) (hr : Reachable c s)
    (h : s.stopReturned = some true) : ∀ a ∈ s.accepted, a ∈ answeredIds s :=
  have _ := hc
  graceful_stop c s hr h

/-- non-vacuity: the premises of `C05_graceful_stop` hold when the busy state above is drained (one flush
    fails, one is ack-only) and Stop returns nil -/
example : ∃ s, 0 < (⟨2, 2⟩ : Cfg).maxRows ∧ Reachable ⟨2, 2⟩ s ∧ s.stopReturned = some true ∧
    s.accepted = [1, 2, 3, 4, 5, 6, 7] ∧
    s.answered = [(2, false), (1, false), (3, false), (4, true), (5, true), (7, true), (6, true)] :=
  ⟨_, by decide,
   nv_busy_reach.append [.stopBegin, .flushDone false, .workerTake, .enqueued, .stopCall, .flushBegin, .flushDone true,
      .workerTake, .flushBegin, .flushDone true, .actorRecv 6, .flushTrigger, .enqueued, .actorRecv 7, .workerTake,
      .flushBegin, .flushDone true, .actorExit, .workerExit, .stopRet true] rfl, rfl, rfl, rfl⟩

/-- Non-vacuity: accept three batches (one bad, one empty), flush, stop gracefully. -/
example : ∃ s, run ⟨2, 2⟩ init
    [.accept ⟨1, .rows 1⟩, .start, .accept ⟨2, .bad⟩, .actorRecv 1, .actorRecv 2, .accept ⟨3, .empty⟩,
     .stopBegin, .stopCall, .actorRecv 3, .flushTrigger, .enqueued, .workerTake, .flushBegin, .flushDone true,
     .actorExit, .workerExit, .stopRet true] = some s ∧ s.stopReturned = some true ∧ s.accepted = [1, 2, 3] := by
  refine ⟨_, rfl, rfl, rfl⟩

end BloomVerif.C05
