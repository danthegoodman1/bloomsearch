/-
  C20 — The Results cursor always reaches a correct terminal state (safety part; "Next eventually
  returns false" is liveness: every terminating path of the LTS is enabled once the pipeline has
  exited, which the bounded wind-down of C21 gives; it is monitored on the implementation).
-/
import BloomVerif.Lemmas.Cursor
namespace BloomVerif.C20
open BloomVerif.Cursor

/-- Next keeps returning false once it has returned false. -/
theorem next_false_stable (s : St) (tr : List Ev) (s' : St) (h : s.iterDone = true) (hr : run s tr = some s') :
    s'.iterDone = true ∧ Ev.nextRow ∉ tr ∧ Ev.nextBatch ∉ tr := by
  have := iterates.events (·.iterDone = true) (fun e => e ≠ .nextRow ∧ e ≠ .nextBatch)
    (fun s e s' => iterDone_step s s' e) h hr
  exact ⟨this.1, fun hm => (this.2 _ hm).1 rfl, fun hm => (this.2 _ hm).2 rfl⟩

/-- non-vacuity: the premises of `next_false_stable` hold for a cursor that drained a delivered batch, saw the closed channel (iteration ended) and is then called again, closed and canceled -/
example : ∃ s s', run {} [.deliver 2, .workersDone, .nextEnter, .nextBatch, .nextEnter, .nextRow, .nextEnter, .nextFalseClean] = some s ∧
    s.iterDone = true ∧ run s [.nextEnter, .nextFalseDone, .close, .cancelCaller, .nextEnter, .nextFalseDone] = some s' ∧
    s'.iterDone = true ∧ s'.nextFalse = 3 :=
  ⟨_, _, rfl, rfl, rfl, rfl, rfl⟩

/-- Close (and anything else) does not change an already-decided terminal state. -/
theorem finalized_immutable (s : St) (tr : List Ev) (s' : St) (h : s.finalized = true) (hr : run s tr = some s') :
    s'.finalized = true ∧ s'.err = s.err :=
  iterates.inv (fun x => x.finalized = true ∧ x.err = s.err)
    (fun a e b hi hs => (finalized_step a b e hi.1 hs).imp_right (·.trans hi.2)) ⟨h, rfl⟩ hr

/-- non-vacuity: the premises of `finalized_immutable` hold for a cursor closed after two recorded failures; a later cancel, terminating Next and second Close leave `failures 2` in place -/
example : ∃ s s', run {} [.record, .deliver 1, .record, .workersDone, .close] = some s ∧ s.finalized = true ∧
    run s [.cancelCaller, .nextEnter, .nextFalseTerm, .close] = some s' ∧ s.err = .failures 2 ∧ s'.err = .failures 2 :=
  ⟨_, _, rfl, rfl, rfl, rfl, rfl⟩

/-- **Err is correct** at the step that decides it, from any reachable state: nil only if nothing
    was recorded; the context error if the Query context was canceled when Close ran, or when a Next
    that had seen the cancellation or Close terminated (`nextFalseTerm`); every recorded failure if the
    Query context was not canceled; and the pipeline has exited (so no failure is recorded later).
    Not covered: a Next that observes the closed channel (`nextFalseClean`) while the Query context has
    been canceled since its entry check may decide nil or the recorded failures;
    `C20_canceled_before_next` covers a cancellation that preceded the call. -/
theorem C20_err_correct (s s' : St) (e : Ev) (hr : Reachable s) (hf : s.finalized = false)
    (hs : step s e = some s') (hf' : s'.finalized = true) :
    (s'.err = .clean → s'.recorded = 0) ∧
    (e = .close → s.callerCanceled = true → s'.err = .canceled) ∧
    (e = .nextFalseTerm → s.callerCanceled = true → s'.err = .canceled) ∧
    (s.callerCanceled = false → s'.err = joined s'.recorded) ∧
    s'.workersDone = true :=
  have _ := hr
  err_correct_step s s' e hf hs hf'

/-- non-vacuity: the premises of `C20_err_correct` hold for Close on a reachable, undecided state (a batch delivered, a failure recorded, the caller canceled, the pipeline exited) -/
example : ∃ s s' e, Reachable s ∧ s.finalized = false ∧ step s e = some s' ∧ s'.finalized = true ∧
    e = .close ∧ s.callerCanceled = true ∧ s.recorded = 1 ∧ s'.err = .canceled :=
  ⟨_, _, .close, ⟨[.deliver 3, .record, .cancelCaller, .workersDone], rfl⟩, rfl, rfl, rfl, rfl, rfl, rfl, rfl⟩

/-- non-vacuity: the premises of `C20_err_correct` also hold for an uncancelled terminating Next (clean end of a run with two recorded failures) -/
example : ∃ s s', Reachable s ∧ s.finalized = false ∧ step s .nextFalseClean = some s' ∧ s'.finalized = true ∧
    s.callerCanceled = false ∧ s'.err = .failures 2 :=
  ⟨_, _, ⟨[.record, .deliver 2, .record, .workersDone, .nextEnter, .nextBatch, .nextEnter, .nextRow, .nextEnter], rfl⟩, rfl, rfl, rfl, rfl, rfl⟩

/-- non-vacuity of the model itself: `nextRow` is live - a batch of three rows is handed out by one
    `nextBatch` (its first row) and two `nextRow`s, and only then may Next observe the end. -/
example : ∃ s, run {} [.deliver 3, .workersDone, .nextEnter, .nextBatch, .nextEnter, .nextRow, .nextEnter, .nextRow,
      .nextEnter, .nextFalseClean] = some s ∧ s.err = .clean ∧ s.nextFalse = 1 ∧
    run {} [.deliver 3, .workersDone, .nextEnter, .nextBatch, .nextEnter, .nextFalseClean] = none :=
  ⟨_, rfl, rfl, rfl, rfl⟩

/-- A Next that began after the Query context had ended - whether or not the cancellation has reached the
    cursor's derived context yet (asynchronous propagation for non-standard Context types) - never decides
    "complete": the state it decides is the context error. -/
theorem C20_canceled_before_next (s s' : St) (e : Ev) (hr : Reachable s) (hin : s.inNext = true)
    (hc : s.canceledAtEntry = true) (hf : s.finalized = false) (hs : step s e = some s') (hf' : s'.finalized = true)
    (he : e ≠ .close) : s'.err = .canceled := by
  obtain ⟨hsaw, hcc⟩ := (reachable_inv s hr).entryCancel hin hc
  cases step_sound hs <;> simp_all [finish]

/-- non-vacuity: the context ends, nothing has propagated to the internal context, all rows are ready and the
    pipeline has exited; the next Next still decides "canceled" -/
example : ∃ s s', Reachable s ∧ s.inNext = true ∧ s.canceledAtEntry = true ∧ s.finalized = false ∧
    step s .nextFalseTerm = some s' ∧ s'.err = .canceled ∧ step s .nextFalseClean = none :=
  ⟨_, _, ⟨[.deliver 1, .workersDone, .nextEnter, .nextBatch, .cancelCaller, .nextEnter], rfl⟩, rfl, rfl, rfl, rfl, rfl, rfl⟩

theorem close_idempotent (s s' s'' : St) (h1 : step s .close = some s') (h2 : step s' .close = some s'') :
    s''.err = s'.err ∧ s''.finalized = s'.finalized ∧ s''.iterDone = s'.iterDone := by
  cases step_sound h1 <;> cases step_sound h2 <;> simp_all

/-- non-vacuity: the premises of `close_idempotent` hold for two Close calls on a state reached by a delivery, a recorded failure and the pipeline's exit -/
example : ∃ s s' s'', run {} [.deliver 2, .record, .workersDone] = some s ∧ step s .close = some s' ∧
    step s' .close = some s'' ∧ s'.err = .failures 1 ∧ s''.closeCalls = 2 :=
  ⟨_, _, _, rfl, rfl, rfl, rfl, rfl⟩

/-- Non-vacuity: cancel, then Close, then Next: the terminal state is the context error. -/
example : ∃ s, run {} [.deliver 3, .cancelCaller, .workersDone, .close, .nextEnter, .nextFalseTerm] = some s ∧ s.err = .canceled ∧ s.iterDone = true := by
  refine ⟨_, rfl, rfl, rfl⟩

end BloomVerif.C20
