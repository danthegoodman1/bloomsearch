/-
  C10 — Buffered rows are flushed without an explicit Flush (logic part; the wall-clock allowance
  is the ticker period and is monitored on the implementation).
-/
import BloomVerif.Lemmas.Actor
namespace BloomVerif.C10
open BloomVerif.Actor

/-- Between messages every buffered partition and the whole buffer are strictly under all four
    limits — for every message sequence. -/
theorem under_limits_invariant (c : ACfg) (hc : Positive c) (ms : List Msg) :
    UnderLimits c (runMsgs c {} ms).1 ∧ Consistent (runMsgs c {} ms).1 := by
  suffices h : ∀ s, UnderLimits c s ∧ Consistent s → UnderLimits c (runMsgs c s ms).1 ∧ Consistent (runMsgs c s ms).1 from
    h {} (init_inv c hc)
  induction ms with
  | nil => intro s h; exact h
  | cons m ms ih => intro s h; exact ih _ (step_inv c hc s m h)

/-- Witness config for the non-vacuity examples: all limits positive (10 rows, 1000 bytes, 2 rows and 1000 bytes
    per partition, 100 time units). -/
private def nv_cfg : ACfg := ⟨10, 1000, 2, 1000, 100⟩

theorem nv_pos : Positive nv_cfg := ⟨by decide, by decide, by decide, by decide⟩

/-- Witness state: the actor after a rejected batch, a two-row batch for two partitions at time 7, and a quiet tick. -/
private def nv_buffered : ASt :=
  (runMsgs nv_cfg {} [.bad 9, .batch 1 [⟨1, "a", 10⟩, ⟨2, "b", 10⟩] 7, .tick 50]).1

/-- non-vacuity: the premise of `under_limits_invariant` holds for that config, and for the message sequence above
    the invariant speaks about a non-empty buffer -/
example : Positive nv_cfg ∧
    nv_buffered = { parts := [⟨"a", [1], 10⟩, ⟨"b", [2], 10⟩], waiters := [1], rows := 2, bytes := 20, t0 := some 7 } ∧
    (UnderLimits nv_cfg nv_buffered ∧ Consistent nv_buffered) :=
  ⟨nv_pos, by decide,
   under_limits_invariant nv_cfg nv_pos [.bad 9, .batch 1 [⟨1, "a", 10⟩, ⟨2, "b", 10⟩] 7, .tick 50]⟩

/-- **Immediately**: if processing a batch makes buffered rows, buffered bytes, or a touched
    partition's rows or bytes reach its limit, the step hands *all* buffered data (and every waiter)
    to the flush worker and leaves the buffer empty. -/
theorem C10_immediate (c : ACfg) (s : ASt) (w : Nat) (rows : List RowIn) (now : Nat)
    (hne : rows ≠ []) (h : reaches c s rows = true) :
    step c s (.batch w rows now) = ({}, [.flush (addRows rows s.parts) (s.waiters ++ [w])]) ∧
    (partIds (addRows rows s.parts)).Perm (partIds s.parts ++ rows.map (·.id)) :=
  ⟨by rw [step_batch c s w rows now hne, h]; rfl, addRows_ids rows s.parts⟩

/-- non-vacuity: the premises of `C10_immediate` hold for the buffered state above and a one-row batch that brings
    partition "a" to its row-group limit (2) -/
example : ([⟨3, "a", 10⟩] : List RowIn) ≠ [] ∧ reaches nv_cfg nv_buffered [⟨3, "a", 10⟩] = true ∧
    step nv_cfg nv_buffered (.batch 2 [⟨3, "a", 10⟩] 60) = ({}, [.flush [⟨"a", [1, 3], 20⟩, ⟨"b", [2], 10⟩] [1, 2]]) :=
  ⟨by decide, by decide, (C10_immediate nv_cfg nv_buffered 2 [⟨3, "a", 10⟩] 60 (by decide) (by decide)).1⟩

/-- **By time**: with rows buffered since `t`, any tick at or after `t + MaxBufferedTime` flushes
    everything (when the next tick falls is the wall-clock part, outside the model). -/
theorem C10_time (c : ACfg) (s : ASt) (now t : Nat) (hr : s.rows > 0) (ht : s.t0 = some t)
    (hn : now ≥ t + c.maxTime) : step c s (.tick now) = ({}, [.flush s.parts s.waiters]) := by
  have h1 : decide (s.rows > 0) = true := decide_eq_true hr
  have h2 : elapsed c s.t0 now = true := by
    rw [ht]
    exact decide_eq_true (by omega)
  simp only [step, h1, h2, Bool.and_self, if_true]

/-- non-vacuity: the premises of `C10_time` hold for the buffered state above (rows buffered since 7) and a tick
    at 107 = 7 + MaxBufferedTime -/
example : nv_buffered.rows > 0 ∧ nv_buffered.t0 = some 7 ∧ 107 ≥ 7 + nv_cfg.maxTime ∧
    step nv_cfg nv_buffered (.tick 107) = ({}, [.flush [⟨"a", [1], 10⟩, ⟨"b", [2], 10⟩] [1]]) :=
  ⟨by decide, by decide, by decide, C10_time nv_cfg nv_buffered 107 7 (by decide) (by decide) (by decide)⟩

/-- Rows are buffered with a start time, so `C10_time` always applies to a non-empty buffer. -/
theorem buffered_has_start (c : ACfg) (hc : Positive c) (ms : List Msg) :
    (runMsgs c {} ms).1.rows > 0 → (runMsgs c {} ms).1.t0.isSome = true :=
  (under_limits_invariant c hc ms).2.2.2.1

/-- non-vacuity: both premises of `buffered_has_start` (positive config, rows buffered) hold for the message
    sequence behind `nv_buffered` -/
example : Positive nv_cfg ∧
    (runMsgs nv_cfg {} [.bad 9, .batch 1 [⟨1, "a", 10⟩, ⟨2, "b", 10⟩] 7, .tick 50]).1.rows > 0 ∧
    (runMsgs nv_cfg {} [.bad 9, .batch 1 [⟨1, "a", 10⟩, ⟨2, "b", 10⟩] 7, .tick 50]).1.t0 = some 7 :=
  ⟨nv_pos, by decide, by decide⟩

/-- No row is lost or duplicated on the way to the flush worker. -/
theorem conservation (c : ACfg) (ms : List Msg) :
    (partIds (runMsgs c {} ms).1.parts ++ effIds (runMsgs c {} ms).2).Perm (msgIds ms) := by
  simpa [partIds] using run_ids c {} ms

/-- (C06) A batch with an unmarshalable row leaves no trace in the buffers. -/
theorem reject_leaves_no_trace (c : ACfg) (s : ASt) (w : Nat) : step c s (.bad w) = (s, [.ack w false]) := by
  rfl

/-- Non-vacuity: a batch crossing the partition row limit flushes both buffered partitions. -/
example :
    let c : ACfg := ⟨10, 1000, 2, 1000, 100⟩
    (runMsgs c {} [.batch 1 [⟨1, "a", 10⟩, ⟨2, "b", 10⟩] 0, .batch 2 [⟨3, "a", 10⟩] 5]).2 =
      [.flush [⟨"a", [1, 3], 20⟩, ⟨"b", [2], 10⟩] [1, 2]] := by decide

end BloomVerif.C10
