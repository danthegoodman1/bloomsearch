/-
  C18 — Indexes cover their data at every level of the hierarchy.
-/
import BloomVerif.Lemmas.Build
namespace BloomVerif

/-- a row view that indexes the one key `k` has no value under any other -/
theorem key_of_ite_eq_some (k : String) (v : NumVal) (f : String) (w : NumVal)
    (h : (if f = k then some v else none) = some w) : f ∈ [k] := by
  split at h
  · simp [*]
  · cases h

end BloomVerif
namespace BloomVerif.C18

/-- A block built by flush from the rows buffered for one partition is index-covered: its filters
    contain every field path, token and field::token pair of every row, its minmax ranges cover
    every indexed value, and its partition ID is each row's. -/
theorem block_WF (s : Sem) (build : List Str → (Str → Bool)) (hb : SoundBuild build)
    (keys : List String) (pid : String) (rows : List Row)
    (hp : ∀ r ∈ rows, r.pre.pid = pid)
    (hk : ∀ r ∈ rows, ∀ f v, r.pre.vals f = some v → f ∈ keys) :
    BlockWF s (mkBlock s build keys pid rows) :=
  mkBlock_WF_aux s build hb keys pid rows hp hk

/-- witness engine parameters: a tokenizer that splits off the first character, a membership-test filter builder -/
private def nv_sem : Sem := { tok := fun x => [x, x.take 1], re := fun _ _ => true }
private def nv_build : List Str → (Str → Bool) := fun l x => l.contains x
/-- witness rows: JSON objects with an indexed numeric key `k`, in partitions `p`, `p`, `q` -/
private def nv_row (pid : String) (n : Int) (msg : String) : Row :=
  { json := .obj [("k".toList, .num (toString n).toList), ("msg".toList, .str msg.toList)],
    pre := { pid := pid, vals := fun f => if f = "k" then some (.int n) else none } }
private def nv_r1 : Row := nv_row "p" 5 "hello world"
private def nv_r2 : Row := nv_row "p" (-3) "bye"
private def nv_r3 : Row := nv_row "q" 40 "other"
theorem nv_pair_keys : ∀ r ∈ [nv_r1, nv_r2], ∀ f v, r.pre.vals f = some v → f ∈ ["k"] :=
  List.forall_mem_cons.2 ⟨key_of_ite_eq_some _ _, List.forall_mem_singleton.2 (key_of_ite_eq_some _ _)⟩

/-- non-vacuity: the premises of `block_WF` hold for a sound builder and two JSON rows of partition `p` carrying the indexed key `k` -/
example : SoundBuild nv_build ∧ (∀ r ∈ [nv_r1, nv_r2], r.pre.pid = "p") ∧
    (∀ r ∈ [nv_r1, nv_r2], ∀ f v, r.pre.vals f = some v → f ∈ ["k"]) ∧
    BlockWF nv_sem (mkBlock nv_sem nv_build ["k"] "p" [nv_r1, nv_r2]) :=
  have hp : ∀ r ∈ [nv_r1, nv_r2], r.pre.pid = "p" := by decide
  ⟨soundBuild_contains, hp, nv_pair_keys, block_WF nv_sem nv_build soundBuild_contains ["k"] "p" _ hp nv_pair_keys⟩

/-- A flushed file is index-covered at both levels. -/
theorem flush_WF (s : Sem) (build : List Str → (Str → Bool)) (hb : SoundBuild build)
    (keys : List String) (parts : List (String × List Row))
    (hp : ∀ p ∈ parts, ∀ r ∈ p.2, r.pre.pid = p.1)
    (hk : ∀ p ∈ parts, ∀ r ∈ p.2, ∀ f v, r.pre.vals f = some v → f ∈ keys) :
    FileWF s (flushFile s build keys parts) := by
  intro b hbm
  obtain ⟨p, hpm, rfl⟩ := List.mem_map.mp hbm
  refine ⟨block_WF s build hb keys p.1 p.2 (hp p hpm) (hk p hpm), ?_⟩
  intro r hr
  exact buildFilt_covers build hb _ _
    (List.mem_flatMap.mpr ⟨p, hpm, List.mem_map.mpr ⟨r, hr, rfl⟩⟩)

/-- non-vacuity: the premises of `flush_WF` hold for two partition buffers (two rows and one row) -/
example : SoundBuild nv_build ∧
    (∀ p ∈ [("p", [nv_r1, nv_r2]), ("q", [nv_r3])], ∀ r ∈ p.2, r.pre.pid = p.1) ∧
    (∀ p ∈ [("p", [nv_r1, nv_r2]), ("q", [nv_r3])], ∀ r ∈ p.2, ∀ f v, r.pre.vals f = some v → f ∈ ["k"]) ∧
    FileWF nv_sem (flushFile nv_sem nv_build ["k"] [("p", [nv_r1, nv_r2]), ("q", [nv_r3])]) :=
  have hp : ∀ p ∈ [("p", [nv_r1, nv_r2]), ("q", [nv_r3])], ∀ r ∈ p.2, r.pre.pid = p.1 := by decide
  have hk : ∀ p ∈ [("p", [nv_r1, nv_r2]), ("q", [nv_r3])], ∀ r ∈ p.2, ∀ f v, r.pre.vals f = some v → f ∈ ["k"] :=
    List.forall_mem_cons.2 ⟨nv_pair_keys, List.forall_mem_singleton.2 (List.forall_mem_singleton.2 (key_of_ite_eq_some _ _))⟩
  ⟨soundBuild_contains, hp, hk, flush_WF nv_sem nv_build soundBuild_contains ["k"] _ hp hk⟩

/-- A block lists exactly the indexed keys its rows provided as (non-NaN) numbers. -/
theorem minmax_keys_exact (keys : List String) (rows : List Row) (k : String) :
    ((blockMinMax keys rows).lookup k).isSome = true ↔
      (k ∈ keys ∧ ∃ r ∈ rows, (r.pre.vals k).isSome = true) := by
  rw [blockMinMax_eq, insAll_isSome, or_iff_left (by simp)]
  simp only [rowIns, List.mem_flatMap, List.mem_filterMap, Option.map_eq_some_iff, Option.isSome_iff_exists]
  constructor
  · rintro ⟨_, ⟨r, hr, k, hk, v, hv, rfl⟩, rfl⟩
    exact ⟨hk, r, hr, v, hv⟩
  · rintro ⟨hk, r, hr, v, hv⟩
    exact ⟨_, ⟨r, hr, k, hk, v, hv, rfl⟩, rfl⟩

/-- Merged *and* copied blocks stay index-covered. -/
theorem mergeGroup_WF (s : Sem) (build : List Str → (Str → Bool)) (hb : SoundBuild build)
    (g : List Block) (b' : Block) (hg : ValidGroup g) (hwf : ∀ b ∈ g, BlockWF s b)
    (h : mergeGroup s build g = some b') : BlockWF s b' := by
  have m := mergeGroup_spec s build g b' h
  rcases m.filt with rfl | hf
  · exact hwf b' (List.mem_singleton_self b')
  intro r hr
  obtain ⟨x, hx, hrx⟩ := List.mem_flatMap.mp (m.rows ▸ hr)
  obtain ⟨hpid, hcov⟩ := (hwf x hx r hrx).1
  exact ⟨⟨(m.pid hg x hx).symm.trans hpid, fun f v hv => MMCovers.mono (hcov f v hv) (m.widens x hx)⟩,
    hf ▸ buildFilt_covers build hb _ _ (List.mem_map.mpr ⟨r, hr, rfl⟩)⟩

/-- witness blocks: three flushed single-row blocks, two of partition `p`, one of `q` -/
private def nv_bA : Block := mkBlock nv_sem nv_build ["k"] "p" [nv_r1]
private def nv_bB : Block := mkBlock nv_sem nv_build ["k"] "p" [nv_r2]
private def nv_bC : Block := mkBlock nv_sem nv_build ["k"] "q" [nv_r3]

theorem nv_row_WF (pid : String) (n : Int) (msg : String) :
    BlockWF nv_sem (mkBlock nv_sem nv_build ["k"] pid [nv_row pid n msg]) :=
  block_WF nv_sem nv_build soundBuild_contains ["k"] pid _ (List.forall_mem_singleton.2 rfl)
    (List.forall_mem_singleton.2 (key_of_ite_eq_some _ _))

theorem nv_pair_valid : ValidGroup [nv_bA, nv_bB] := by
  -- the partition IDs as `"p" = "p"`: for a bare `rfl` the kernel first compares the two `mkBlock` terms argument
  -- by argument, down to `toString 5` against `toString (-3)`, ten times the cost of everything else here
  refine validGroup_pair (rfl : "p" = "p") fun k => ?_
  have eA : nv_bA.md.MinMaxIndexes = [("k", ⟨5, 5⟩)] := by decide
  have eB : nv_bB.md.MinMaxIndexes = [("k", ⟨-3, -3⟩)] := by decide
  rw [eA, eB]
  simp only [List.lookup_cons]
  cases (k == "k") <;> rfl

theorem nv_pair_WF : ∀ b ∈ [nv_bA, nv_bB], BlockWF nv_sem b :=
  List.forall_mem_cons.2 ⟨nv_row_WF "p" 5 "hello world", List.forall_mem_singleton.2 (nv_row_WF "p" (-3) "bye")⟩

/-- non-vacuity: the premises of `mergeGroup_WF` hold for a group of two flushed blocks of the same partition and key set (ranges [5,5] and [-3,-3]) -/
example : ∃ b', SoundBuild nv_build ∧ ValidGroup [nv_bA, nv_bB] ∧ (∀ b ∈ [nv_bA, nv_bB], BlockWF nv_sem b) ∧
    mergeGroup nv_sem nv_build [nv_bA, nv_bB] = some b' ∧ b'.md.MinMaxIndexes = [("k", ⟨-3, 5⟩)] ∧
    b'.rows.length = 2 ∧ BlockWF nv_sem b' := by
  exact ⟨_, soundBuild_contains, nv_pair_valid, nv_pair_WF, rfl, by decide, rfl,
    mergeGroup_WF nv_sem nv_build soundBuild_contains _ _ nv_pair_valid nv_pair_WF rfl⟩

/-- A merge output file is index-covered at both levels, for any valid grouping. -/
theorem merge_WF (s : Sem) (build : List Str → (Str → Bool)) (hb : SoundBuild build)
    (groups : List (List Block)) (hg : ∀ g ∈ groups, ValidGroup g)
    (hwf : ∀ g ∈ groups, ∀ b ∈ g, BlockWF s b) :
    FileWF s (mergeFile s build groups) := by
  intro b' hb'
  obtain ⟨g, hgm, hmg⟩ := List.mem_filterMap.mp hb'
  refine ⟨mergeGroup_WF s build hb g b' (hg g hgm) (hwf g hgm) hmg, ?_⟩
  intro r hr
  rw [(mergeGroup_spec s build g b' hmg).rows] at hr
  obtain ⟨x, hx, hrx⟩ := List.mem_flatMap.mp hr
  refine buildFilt_covers build hb _ _ (List.mem_flatMap.mpr ⟨x, ?_, List.mem_map.mpr ⟨r, hrx, rfl⟩⟩)
  exact List.mem_flatMap.mpr ⟨g, hgm, hx⟩

/-- non-vacuity: the premises of `merge_WF` hold for a grouping with one merged pair and one copied singleton block -/
example : SoundBuild nv_build ∧ (∀ g ∈ [[nv_bA, nv_bB], [nv_bC]], ValidGroup g) ∧
    (∀ g ∈ [[nv_bA, nv_bB], [nv_bC]], ∀ b ∈ g, BlockWF nv_sem b) ∧
    (mergeFile nv_sem nv_build [[nv_bA, nv_bB], [nv_bC]]).blocks.length = 2 ∧
    FileWF nv_sem (mergeFile nv_sem nv_build [[nv_bA, nv_bB], [nv_bC]]) :=
  have hgs : ∀ g ∈ [[nv_bA, nv_bB], [nv_bC]], ValidGroup g :=
    List.forall_mem_cons.2 ⟨nv_pair_valid, List.forall_mem_singleton.2 (validGroup_singleton _)⟩
  have hwfs : ∀ g ∈ [[nv_bA, nv_bB], [nv_bC]], ∀ b ∈ g, BlockWF nv_sem b :=
    List.forall_mem_cons.2
      ⟨nv_pair_WF, List.forall_mem_singleton.2 (List.forall_mem_singleton.2 (nv_row_WF "q" 40 "other"))⟩
  ⟨soundBuild_contains, hgs, hwfs, rfl, merge_WF nv_sem nv_build soundBuild_contains _ hgs hwfs⟩

end BloomVerif.C18
