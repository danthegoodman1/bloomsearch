/-
  C06 — Acknowledgements are truthful: nil means durable, error means absent.
  For a failure injected at any store call (any set of calls: `fail` is an arbitrary predicate on
  call positions, which covers single faults and pairs), with or without an Abort-capable writer.
-/
import BloomVerif.Lemmas.Proto
import BloomVerif.Model.Content
namespace BloomVerif.C06
open BloomVerif.Proto

/-- nil is delivered exactly when CreateFile, every Write, Close and MetaStore.Update succeeded … -/
theorem ack_nil_iff (blocks : Nat) (hasAbort : Bool) (fail : Nat → Bool) :
    (flush blocks hasAbort fail).ackOk = flushEssential blocks fail :=
  (flush_spec blocks hasAbort fail).ack

/-- … and exactly then the file is referenced by the MetaStore: **nil ⇔ committed**. -/
theorem C06_nil_means_committed (blocks : Nat) (hasAbort : Bool) (fail : Nat → Bool) :
    (flush blocks hasAbort fail).committed = (flush blocks hasAbort fail).ackOk :=
  (flush_spec blocks hasAbort fail).committed

/-- A committed flush published its file, tombstoned nothing and issued exactly the fault-free
    call sequence. -/
theorem nil_is_clean (blocks : Nat) (hasAbort : Bool) (fail : Nat → Bool)
    (h : (flush blocks hasAbort fail).ackOk = true) :
    (flush blocks hasAbort fail).published = true ∧ (flush blocks hasAbort fail).tombstoned = false ∧
    (flush blocks hasAbort fail).calls = [.create] ++ List.replicate (flushWrites blocks) .write ++ [.close, .update] :=
  (flush_spec blocks hasAbort fail).clean h

/-- non-vacuity: the premise of `nil_is_clean` holds for a two-block flush whose only fault hits a call that is
    never issued (position 12, after Update) -/
example : (flush 2 false (fun k => k == 12)).ackOk = true ∧
    (flush 2 false (fun k => k == 12)).calls =
      [.create, .write, .write, .write, .write, .write, .write, .write, .write, .write, .close, .update] :=
  ⟨by decide, (nil_is_clean 2 false (fun k => k == 12) (by decide)).2.2⟩

/-- **Error ⇒ absent**: an error acknowledgement means nothing was committed, and whatever was
    created has been tombstoned (so with an atomic MetaStore.Update no row of the batch can ever
    become visible). -/
theorem C06_err_means_absent (blocks : Nat) (hasAbort : Bool) (fail : Nat → Bool)
    (h : (flush blocks hasAbort fail).ackOk = false) :
    (flush blocks hasAbort fail).committed = false ∧
    (fail 0 = false → (flush blocks hasAbort fail).tombstoned = true) ∧
    (fail 0 = true → (flush blocks hasAbort fail).calls = [.create]) :=
  ⟨(flush_spec blocks hasAbort fail).committed.trans h, (flush_spec blocks hasAbort fail).cleanup h⟩

/-- non-vacuity: the premise of `C06_err_means_absent` holds for a two-block flush whose Close fails (writer
    without Abort), with `fail 0 = false`, so the tombstone conclusion is exercised -/
example : (flush 2 false (fun k => k == 10)).ackOk = false ∧ (fun k => k == 10) 0 = false ∧
    (flush 2 false (fun k => k == 10)).tombstoned = true :=
  ⟨by decide, by decide, (C06_err_means_absent 2 false (fun k => k == 10) (by decide)).2.1 (by decide)⟩

/-- non-vacuity: … and for a three-block flush whose CreateFile and MetaStore.Update fail (`fail 0 = true`) -/
example : (flush 3 true (fun k => k == 0 || k == 12)).ackOk = false ∧ (fun k => k == 0 || k == 12) 0 = true ∧
    (flush 3 true (fun k => k == 0 || k == 12)).calls = [.create] :=
  ⟨by decide, by decide, (C06_err_means_absent 3 true (fun k => k == 0 || k == 12) (by decide)).2.2 (by decide)⟩

/-- Committing the flushed file makes exactly its rows visible, exactly once, on any engine that
    reads the same MetaStore (the content model has no engine-local state). -/
theorem committed_rows_visible_once (files : List FileM) (f : FileM) :
    allRows (files ++ [f]) = allRows files ++ f.blocks.flatMap (·.rows) := by
  simp [allRows]

theorem committed_query_adds_only_its_rows (s : Sem) (files : List FileM) (f : FileM) (q : Query) :
    query s (files ++ [f]) q = query s files q ++ queryFile s q f := by
  simp [query]

/-- Non-vacuity: a fault at the third write of a two-block flush with an Abort-capable writer. -/
example : flush 2 true (fun k => k == 3) =
    { calls := [.create, .write, .write, .write, .abort, .tombstone], ackOk := false, committed := false,
      published := false, tombstoned := true } := by decide

end BloomVerif.C06
