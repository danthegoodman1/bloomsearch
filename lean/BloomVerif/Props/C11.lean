/-
  C11 — Merging preserves stored content and query answers. Stated for *any* valid grouping of the
  source blocks (a partition into non-empty groups sharing partition ID and minmax key set), so the
  result does not depend on the greedy order the engine happens to use. After the end results: the
  alternative side condition for the superset theorem, and the counterexample (`MergeCE`) showing
  that one of the two is needed.
-/
import BloomVerif.Props.C02
import BloomVerif.Props.C18
namespace BloomVerif.C11

/-- The merged file stores exactly the rows of the source blocks, group by group (as lists, hence as
    multisets). The statement holds without `hg` (an empty group yields no block and has no rows); the proof
    uses it only to name the block a group becomes. -/
theorem C11_rows_preserved (s : Sem) (build : List Str → (Str → Bool))
    (groups : List (List Block)) (hg : ∀ g ∈ groups, g ≠ []) :
    allRows [mergeFile s build groups] = (groups.flatMap id).flatMap (·.rows) := by
  have key : (groups.filterMap (mergeGroup s build)).flatMap (·.rows) =
      (groups.flatMap id).flatMap (·.rows) := by
    induction groups with
    | nil => rfl
    | cons g gs ih =>
      obtain ⟨b', hb'⟩ := mergeGroup_isSome s build g (hg g List.mem_cons_self)
      rw [List.filterMap_cons, hb']
      simp only [List.flatMap_cons, List.flatMap_append, id]
      rw [ih (fun g' h' => hg g' (List.mem_cons_of_mem _ h')), (mergeGroup_spec s build g b' hb').rows]
  simp only [allRows, List.flatMap_cons, List.flatMap_nil, List.append_nil]
  exact key

/-- witness engine parameters: split-on-blank tokenizer, "pattern is a prefix of the text" as regex oracle,
    exact-membership filters -/
private def nv_sem : Sem := { tok := fieldsOn (fun c => c == ' '), re := fun p t => p.isPrefixOf t }
private def nv_build : List Str → (Str → Bool) := fun l x => l.contains x
theorem nv_sound : SoundBuild nv_build := soundBuild_contains
/-- witness prefilter view of a row: partition `pid`, one indexed value under key "n" -/
private def nv_pre (pid : String) (v : NumVal) : RowPre :=
  { pid := pid, vals := fun f => if f = "n" then some v else none }
private def nv_r1 : Row :=
  { json := .obj [("a".toList, .obj [("b".toList, .str "hello world".toList), ("n".toList, .num "42".toList)])],
    pre := nv_pre "p1" (.int 42) }
private def nv_r2 : Row :=
  { json := .obj [("a".toList, .obj [("b".toList, .str "bye world".toList)])], pre := nv_pre "p1" (.int 7) }
private def nv_r3 : Row :=
  { json := .obj [("a".toList, .str "hello".toList)], pre := nv_pre "p2" (.int 45) }
private def nv_r4 : Row :=
  { json := .obj [("a".toList, .obj [("b".toList, .str "help the world".toList)])], pre := nv_pre "p1" (.int 100) }
/-- witness source blocks as flush builds them: two blocks of partition p1 (ranges [7, 42] and [100, 100]), one of p2 -/
private def nv_b1 : Block := mkBlock nv_sem nv_build ["n"] "p1" [nv_r1, nv_r2]
private def nv_b2 : Block := mkBlock nv_sem nv_build ["n"] "p1" [nv_r4]
private def nv_b3 : Block := mkBlock nv_sem nv_build ["n"] "p2" [nv_r3]

/-- non-vacuity: a grouping with a two-block group and a singleton group; all four rows survive, in order -/
example :
    let groups := [[nv_b1, nv_b2], [nv_b3]]
    (∀ g ∈ groups, g ≠ []) ∧
    allRows [mergeFile nv_sem nv_build groups] = (groups.flatMap id).flatMap (·.rows) ∧
    (groups.flatMap id).flatMap (·.rows) = [nv_r1, nv_r2, nv_r4, nv_r3] := by
  intro groups
  have hg : ∀ g ∈ groups, g ≠ [] := List.forall_mem_cons.2 ⟨nofun, List.forall_mem_singleton.2 nofun⟩
  exact ⟨hg, C11_rows_preserved nv_sem nv_build groups hg, by rfl⟩

/-- Every row stays in a block with its partition ID whose minmax ranges cover its values. -/
theorem C11_partition_minmax (s : Sem) (build : List Str → (Str → Bool)) (hb : SoundBuild build)
    (groups : List (List Block)) (hg : ∀ g ∈ groups, ValidGroup g)
    (hwf : ∀ g ∈ groups, ∀ b ∈ g, BlockWF s b) :
    ∀ b' ∈ (mergeFile s build groups).blocks, ∀ r ∈ b'.rows, Covers b'.md r.pre :=
  fun b' hb' r hr => ((C18.merge_WF s build hb groups hg hwf) b' hb').1 r hr |>.1

/-- the witness grouping bundled with its certificates: valid groups (shared partition ID and key set), index-covered
    blocks, ordered in-range minmax entries -/
private def nv_groups : { groups : List (List Block) //
    (∀ g ∈ groups, ValidGroup g) ∧ (∀ g ∈ groups, ∀ b ∈ g, BlockWF nv_sem b) ∧
    (∀ g ∈ groups, ∀ b ∈ g, MDWF b.md) ∧
    (∀ g ∈ groups, ∀ b ∈ g, ∀ p ∈ b.md.MinMaxIndexes, InI64 p.2.Min ∧ InI64 p.2.Max) } :=
  ⟨[[nv_b1, nv_b2], [nv_b3]], by
    have hsb : SoundBuild nv_build := by intro l x h; simp [nv_build, h]
    have hvals : ∀ pid v f w, (nv_pre pid v).vals f = some w → f ∈ ["n"] := by
      intro pid v f w h; simp only [nv_pre] at h; split at h
      · simp [*]
      · cases h
    -- every block: its partition, its single-key minmax map, and the per-block certificates
    have hblk : ∀ (pid : String) (rows : List Row) (mm : MinMaxIndex),
        (∀ r ∈ rows, r.pre.pid = pid) → (∀ r ∈ rows, ∃ v, r.pre = nv_pre pid v) →
        blockMinMax ["n"] rows = [("n", mm)] → mm.Min ≤ mm.Max ∧ InI64 mm.Min ∧ InI64 mm.Max →
        let b := mkBlock nv_sem nv_build ["n"] pid rows
        b.md.PartitionID = pid ∧ (∀ k, (b.md.MinMaxIndexes.lookup k).isSome = (k == "n")) ∧
        BlockWF nv_sem b ∧ MDWF b.md ∧ ∀ p ∈ b.md.MinMaxIndexes, InI64 p.2.Min ∧ InI64 p.2.Max := by
      intro pid rows mm hp hv hmm hin b
      have e : b.md.MinMaxIndexes = [("n", mm)] := hmm
      refine ⟨rfl, ?_, ?_, ?_, ?_⟩
      · intro k; rw [e]; simp only [List.lookup_cons, List.lookup_nil]; cases (k == "n") <;> rfl
      · refine mkBlock_WF_aux nv_sem nv_build hsb _ _ _ hp ?_
        intro r hr f w h
        obtain ⟨v, hv'⟩ := hv r hr
        rw [hv'] at h; exact hvals _ _ f w h
      · intro k m hl
        unfold lookupMM at hl; rw [e] at hl
        simp only [List.lookup_cons, List.lookup_nil] at hl
        cases hk : (k == "n") <;> rw [hk] at hl <;> cases hl
        exact hin
      · intro p hp; rw [e] at hp
        simp only [List.mem_cons, List.mem_nil_iff, or_false] at hp; subst hp; exact hin.2
    have h1 := hblk "p1" [nv_r1, nv_r2] ⟨7, 42⟩ (by decide)
      (by intro r hr; simp only [List.mem_cons, List.mem_nil_iff, or_false] at hr
          rcases hr with rfl | rfl <;> exact ⟨_, rfl⟩) (by decide) (by decide)
    have h2 := hblk "p1" [nv_r4] ⟨100, 100⟩ (by decide)
      (by intro r hr; simp only [List.mem_cons, List.mem_nil_iff, or_false] at hr; subst hr; exact ⟨_, rfl⟩)
      (by decide) (by decide)
    have h3 := hblk "p2" [nv_r3] ⟨45, 45⟩ (by decide)
      (by intro r hr; simp only [List.mem_cons, List.mem_nil_iff, or_false] at hr; subst hr; exact ⟨_, rfl⟩)
      (by decide) (by decide)
    have hmem : ∀ g ∈ [[nv_b1, nv_b2], [nv_b3]], ∀ b ∈ g,
        (g = [nv_b1, nv_b2] ∧ (b = nv_b1 ∨ b = nv_b2)) ∨ (g = [nv_b3] ∧ b = nv_b3) := by
      intro g hg b hb
      simp only [List.mem_cons, List.mem_nil_iff, or_false] at hg
      rcases hg with rfl | rfl
      · left; exact ⟨rfl, by simpa using hb⟩
      · right; exact ⟨rfl, by simpa using hb⟩
    refine ⟨?_, ?_, ?_, ?_⟩
    · intro g hg
      refine ⟨?_, ?_⟩
      · simp only [List.mem_cons, List.mem_nil_iff, or_false] at hg
        rcases hg with rfl | rfl <;> simp
      · intro x hx y hy
        have hK : ∃ pid, ∀ b ∈ g, b.md.PartitionID = pid ∧ ∀ k, (b.md.MinMaxIndexes.lookup k).isSome = (k == "n") := by
          simp only [List.mem_cons, List.mem_nil_iff, or_false] at hg
          rcases hg with rfl | rfl
          · refine ⟨"p1", fun b hb => ?_⟩
            simp only [List.mem_cons, List.mem_nil_iff, or_false] at hb
            rcases hb with rfl | rfl
            · exact ⟨h1.1, h1.2.1⟩
            · exact ⟨h2.1, h2.2.1⟩
          · refine ⟨"p2", fun b hb => ?_⟩
            simp only [List.mem_cons, List.mem_nil_iff, or_false] at hb
            subst hb; exact ⟨h3.1, h3.2.1⟩
        obtain ⟨pid, hK⟩ := hK
        exact ⟨(hK x hx).1.trans (hK y hy).1.symm, fun k => ((hK x hx).2 k).trans ((hK y hy).2 k).symm⟩
    · intro g hg b hb
      rcases hmem g hg b hb with ⟨_, rfl | rfl⟩ | ⟨_, rfl⟩
      · exact h1.2.2.1
      · exact h2.2.2.1
      · exact h3.2.2.1
    · intro g hg b hb
      rcases hmem g hg b hb with ⟨_, rfl | rfl⟩ | ⟨_, rfl⟩
      · exact h1.2.2.2.1
      · exact h2.2.2.2.1
      · exact h3.2.2.2.1
    · intro g hg b hb
      rcases hmem g hg b hb with ⟨_, rfl | rfl⟩ | ⟨_, rfl⟩
      · exact h1.2.2.2.2
      · exact h2.2.2.2.2
      · exact h3.2.2.2.2⟩

/-- non-vacuity: sound builder, valid groups, index-covered source blocks; the merged p1 block (three rows, range [7, 100] for "n") covers each of its rows -/
example :
    SoundBuild nv_build ∧ (∀ g ∈ nv_groups.1, ValidGroup g) ∧ (∀ g ∈ nv_groups.1, ∀ b ∈ g, BlockWF nv_sem b) ∧
    (∀ b' ∈ (mergeFile nv_sem nv_build nv_groups.1).blocks, ∀ r ∈ b'.rows, Covers b'.md r.pre) ∧
    (mergeFile nv_sem nv_build nv_groups.1).blocks.map (fun b => (b.md.PartitionID, b.md.MinMaxIndexes, b.rows.length)) =
      [("p1", [("n", ⟨7, 100⟩)], 3), ("p2", [("n", ⟨45, 45⟩)], 1)] := by
  exact ⟨nv_sound, nv_groups.2.1, nv_groups.2.2.1,
    C11_partition_minmax nv_sem nv_build nv_sound nv_groups.1 nv_groups.2.1 nv_groups.2.2.1, by decide⟩

/-- A query without a prefilter returns exactly the matching rows of the unchanged row list —
    the same answer as before the merge (`C02_exact_no_prefilter` on both sides). -/
theorem C11_query_same (s : Sem) (build : List Str → (Str → Bool)) (hb : SoundBuild build)
    (reOK : Str → Bool) (groups : List (List Block)) (q : Query)
    (hg : ∀ g ∈ groups, ValidGroup g) (hwf : ∀ g ∈ groups, ∀ b ∈ g, BlockWF s b)
    (hv : q.Valid reOK) (hpre : q.pre = none) :
    query s [mergeFile s build groups] q = ((groups.flatMap id).flatMap (·.rows)).filter (rowMatches s q) := by
  rw [C02.C02_exact_no_prefilter s reOK _ q (by
        intro f hf; simp only [List.mem_singleton] at hf; subst hf
        exact C18.merge_WF s build hb groups hg hwf) hv hpre]
  rw [C11_rows_preserved s build groups (fun g h => (hg g h).1)]

/-- witness prefilter query: partition = p1 AND n ≤ 42; token "world" under a.b; regex a.b ~ "hel" -/
private def nv_q : Query :=
  { pre := some (.mk "AND" none
      [.mk "CONDITION" (some { ConditionType := "PARTITION", PartitionCondition := some ({ Operator := "EQ", Value := "p1" } : StringCondition) }) [],
       .mk "CONDITION" (some { ConditionType := "MINMAX", MinMaxFieldName := "n", MinMaxCondition := some ({ Operator := "LTE", Value := 42 } : NumericCondition) }) []]),
    bloom := some (.mk "CONDITION" (some { Kind := "FIELD_TOKEN", Field := "a.b".toList, Token := "world".toList }) []),
    regex := some (.mk "OR" none [.mk "CONDITION" (some { Field := "a.b".toList, Pattern := "hel".toList }) []]) }

theorem nv_q_valid : nv_q.Valid (fun p => !p.isEmpty) := by intro e he; cases he; decide
/-- The matching stored rows and the answer after the merge, evaluated in one declaration: the second evaluation
    finds the rows' matching (and the decoded string literals) in the first one's cache. -/
theorem nv_answers :
    ((nv_groups.1.flatMap id).flatMap (·.rows)).filter (rowMatches nv_sem nv_q) = [nv_r1, nv_r4] ∧
    query nv_sem [mergeFile nv_sem nv_build nv_groups.1] nv_q = [nv_r1, nv_r4] :=
  ⟨by rfl, by rfl⟩

/-- non-vacuity: a compiling bloom + regex query without prefilter over the merged file meets all six premises; it returns two of the four stored rows -/
example :
    let q : Query :=
      { bloom := some (.mk "CONDITION" (some { Kind := "FIELD_TOKEN", Field := "a.b".toList, Token := "world".toList }) []),
        regex := some (.mk "OR" none [.mk "CONDITION" (some { Field := "a.b".toList, Pattern := "hel".toList }) []]) }
    SoundBuild nv_build ∧ (∀ g ∈ nv_groups.1, ValidGroup g) ∧ (∀ g ∈ nv_groups.1, ∀ b ∈ g, BlockWF nv_sem b) ∧
    q.Valid (fun p => !p.isEmpty) ∧ q.pre = none ∧
    query nv_sem [mergeFile nv_sem nv_build nv_groups.1] q =
      ((nv_groups.1.flatMap id).flatMap (·.rows)).filter (rowMatches nv_sem q) ∧
    query nv_sem [mergeFile nv_sem nv_build nv_groups.1] q = [nv_r1, nv_r4] := by
  intro q
  have hv : q.Valid (fun p => !p.isEmpty) := nv_q_valid
  have hsame := C11_query_same nv_sem nv_build nv_sound _ nv_groups.1 q nv_groups.2.1 nv_groups.2.2.1 hv rfl
  exact ⟨nv_sound, nv_groups.2.1, nv_groups.2.2.1, hv, rfl, hsame, hsame.trans nv_answers.1⟩

/-- A matching row of a source block that passed the prefilter is in the answer after the merge, if
    widening cannot lose a saturation flag: the query's numeric operands are int64 (`PreCond.WF`, as in
    C04), or every stored pair of the row's group is. The merged block keeps the partition ID and widens
    every range of a source block, so it passes every prefilter leaf the source block passed
    (`evalPreCond_mono`); then the row comes back (`mem_query`). -/
theorem merge_query_superset (s : Sem) (build : List Str → (Str → Bool)) (hb : SoundBuild build)
    (groups : List (List Block)) (q : Query)
    (hg : ∀ g ∈ groups, ValidGroup g) (hwf : ∀ g ∈ groups, ∀ b ∈ g, BlockWF s b)
    (g : List Block) (b : Block) (r : Row) (hgm : g ∈ groups) (hbm : b ∈ g) (hr : r ∈ b.rows)
    (hmd : MDWF b.md)
    (hs : Expr.ForallOpt PreCond.WF q.pre ∨ ∀ x ∈ g, ∀ p ∈ x.md.MinMaxIndexes, InI64 p.2.Min ∧ InI64 p.2.Max)
    (hpre : evalPre b.md q.pre = true) (hm : rowMatches s q r = true) :
    r ∈ query s [mergeFile s build groups] q := by
  obtain ⟨b', hb'⟩ := mergeGroup_isSome s build g (hg g hgm).1
  have m := mergeGroup_spec s build g b' hb'
  have mono := evalPreCond_mono b.md b'.md (m.pid (hg g hgm) b hbm) (m.widens b hbm) hmd
  refine (mem_query s _ q (fun f hf => ?_) r).2 ⟨_, List.mem_singleton_self _, b',
    List.mem_filterMap.mpr ⟨g, hgm, hb'⟩, ?_, ?_, hm⟩
  · rw [List.mem_singleton.1 hf]; exact C18.merge_WF s build hb groups hg hwf
  · rcases hs with hq | hp
    · exact Expr.evalOpt_mono _ _ PreCond.WF (fun c hc => mono c (.inl hc)) q.pre hq hpre
    · exact Expr.evalOpt_mono' _ _ (fun c => mono c (.inr (m.inI64 hp))) q.pre hpre
  · rw [m.rows]; exact List.mem_flatMap.mpr ⟨b, hbm, hr⟩

/-- With a prefilter: a matching row of a source block that passed the prefilter is in the
    post-merge answer (membership; multiplicities are not compared) …

    `hpairs` is not implied by `hmd`: `MDWF` only constrains the binding `lookup` finds, while `mergeMM`
    folds *every* pair of the later blocks' association lists, shadowed duplicates included, so a
    shadowed out-of-int64 pair could push the merged range beyond int64 and un-saturate it
    (`MergeCE.original_statement_false`). It follows from `MDWF` when keys are unique
    (`pairs_in_of_nodup`). -/
theorem C11_query_superset (s : Sem) (build : List Str → (Str → Bool)) (hb : SoundBuild build)
    (reOK : Str → Bool) (groups : List (List Block)) (q : Query)
    (hg : ∀ g ∈ groups, ValidGroup g) (hwf : ∀ g ∈ groups, ∀ b ∈ g, BlockWF s b)
    (hmd : ∀ g ∈ groups, ∀ b ∈ g, MDWF b.md)
    (hpairs : ∀ g ∈ groups, ∀ b ∈ g, ∀ p ∈ b.md.MinMaxIndexes, InI64 p.2.Min ∧ InI64 p.2.Max)
    (hv : q.Valid reOK)
    (g : List Block) (b : Block) (r : Row) (hgm : g ∈ groups) (hbm : b ∈ g) (hr : r ∈ b.rows)
    (hpre : evalPre b.md q.pre = true) (hm : rowMatches s q r = true) :
    r ∈ query s [mergeFile s build groups] q :=
  have _ := hv
  merge_query_superset s build hb groups q hg hwf g b r hgm hbm hr (hmd g hgm b hbm) (.inr (hpairs g hgm))
    hpre hm

/-- non-vacuity: all thirteen premises hold for the prefilter query, the two-block group, its first block and the nested row; the superset is proper here (`nv_r4` is new) -/
example :
    SoundBuild nv_build ∧ (∀ g ∈ nv_groups.1, ValidGroup g) ∧ (∀ g ∈ nv_groups.1, ∀ b ∈ g, BlockWF nv_sem b) ∧
    (∀ g ∈ nv_groups.1, ∀ b ∈ g, MDWF b.md) ∧
    (∀ g ∈ nv_groups.1, ∀ b ∈ g, ∀ p ∈ b.md.MinMaxIndexes, InI64 p.2.Min ∧ InI64 p.2.Max) ∧
    nv_q.Valid (fun p => !p.isEmpty) ∧ [nv_b1, nv_b2] ∈ nv_groups.1 ∧ nv_b1 ∈ [nv_b1, nv_b2] ∧ nv_r1 ∈ nv_b1.rows ∧
    evalPre nv_b1.md nv_q.pre = true ∧ rowMatches nv_sem nv_q nv_r1 = true ∧
    nv_r1 ∈ query nv_sem [mergeFile nv_sem nv_build nv_groups.1] nv_q ∧
    evalPre nv_b2.md nv_q.pre = false ∧ query nv_sem [mergeFile nv_sem nv_build nv_groups.1] nv_q = [nv_r1, nv_r4] := by
  have hv := nv_q_valid
  have hpre : evalPre nv_b1.md nv_q.pre = true := by decide
  -- the row is in the evaluated answer, so it matches (`C02.query_sound`)
  have hm : rowMatches nv_sem nv_q nv_r1 = true :=
    (C02.query_sound nv_sem _ nv_q nv_r1 (by rw [nv_answers.2]; exact .head _)).2
  exact ⟨nv_sound, nv_groups.2.1, nv_groups.2.2.1, nv_groups.2.2.2.1, nv_groups.2.2.2.2, hv, .head _, .head _, .head _,
    hpre, hm,
    C11_query_superset nv_sem nv_build nv_sound _ nv_groups.1 nv_q nv_groups.2.1 nv_groups.2.2.1 nv_groups.2.2.2.1
      nv_groups.2.2.2.2 hv [nv_b1, nv_b2] nv_b1 nv_r1 (.head _) (.head _) (.head _) hpre hm,
    by decide, nv_answers.2⟩

/-- … limited to rows that match its bloom and regex expression. -/
theorem C11_query_limited (s : Sem) (build : List Str → (Str → Bool)) (groups : List (List Block))
    (q : Query) (r : Row) (h : r ∈ query s [mergeFile s build groups] q) : rowMatches s q r = true :=
  (C02.query_sound s _ q r h).2

/-- non-vacuity: the row returned after the merge although its source block was pruned before the merge does match the bloom and regex expressions -/
example :
    nv_r4 ∈ query nv_sem [mergeFile nv_sem nv_build nv_groups.1] nv_q ∧ rowMatches nv_sem nv_q nv_r4 = true := by
  have h : nv_r4 ∈ query nv_sem [mergeFile nv_sem nv_build nv_groups.1] nv_q := by
    rw [nv_answers.2]; exact .tail _ (.head _)
  exact ⟨h, C11_query_limited nv_sem nv_build nv_groups.1 nv_q nv_r4 h⟩

end BloomVerif.C11

namespace BloomVerif

/-- Alternative to `C11.C11_query_superset`: instead of bounding every stored pair (`hpairs`),
    assume the query's numeric operands are int64 (`PreCond.WF`, as in C04). -/
theorem merge_query_superset_aux_wfq (s : Sem) (build : List Str → (Str → Bool)) (hb : SoundBuild build)
    (reOK : Str → Bool) (groups : List (List Block)) (q : Query)
    (hg : ∀ g ∈ groups, ValidGroup g) (hwf : ∀ g ∈ groups, ∀ b ∈ g, BlockWF s b)
    (hmd : ∀ g ∈ groups, ∀ b ∈ g, MDWF b.md) (hq : Expr.ForallOpt PreCond.WF q.pre)
    (hv : q.Valid reOK)
    (g : List Block) (b : Block) (r : Row) (hgm : g ∈ groups) (hbm : b ∈ g) (hr : r ∈ b.rows)
    (hpre : evalPre b.md q.pre = true) (hm : rowMatches s q r = true) :
    r ∈ query s [mergeFile s build groups] q :=
  have _ := hv
  C11.merge_query_superset s build hb groups q hg hwf g b r hgm hbm hr (hmd g hgm b hbm) (.inl hq) hpre hm

/- Counterexample to `C11.C11_query_superset` without `hpairs` (or `PreCond.WF`): block 2 has a
    shadowed duplicate binding of "k" beyond int64, invisible to `MDWF`; merging pushes the range
    of block 1 (saturated at `maxInt64`) to `maxInt64 + 1`, and `GT maxInt64 + 5` then prunes. -/
namespace MergeCE

def sem : Sem := { tok := fun _ => [], re := fun _ _ => true }
def build : List Str → (Str → Bool) := fun l x => l.contains x
def row : Row := { json := .null, pre := { pid := "p", vals := fun _ => none } }
def b1 : Block :=
  { md := { PartitionID := "p", Rows := 1, MinMaxIndexes := [("k", ⟨0, maxInt64⟩)] },
    rows := [row], filt := {} }
def b2 : Block :=
  { md := { PartitionID := "p", Rows := 0,
            MinMaxIndexes := [("k", ⟨0, 0⟩), ("k", ⟨0, maxInt64 + 1⟩)] },
    rows := [], filt := {} }
def nc : NumericCondition := { Operator := "GT", Value := maxInt64 + 5 }
def pc : PreCond := { ConditionType := "MINMAX", MinMaxFieldName := "k", MinMaxCondition := some nc }
def q : Query := { pre := some (Expr.mk "CONDITION" (some pc) []) }

theorem filtCovers_empty (en : Entries) : FiltCovers {} en := by
  refine ⟨?_, ?_, ?_⟩ <;> (intro g h; cases h)

theorem original_statement_false :
    ¬ (∀ (s : Sem) (build : List Str → (Str → Bool)) (_ : SoundBuild build)
        (reOK : Str → Bool) (groups : List (List Block)) (q : Query)
        (_ : ∀ g ∈ groups, ValidGroup g) (_ : ∀ g ∈ groups, ∀ b ∈ g, BlockWF s b)
        (_ : ∀ g ∈ groups, ∀ b ∈ g, MDWF b.md) (_ : q.Valid reOK)
        (g : List Block) (b : Block) (r : Row) (_ : g ∈ groups) (_ : b ∈ g) (_ : r ∈ b.rows)
        (_ : evalPre b.md q.pre = true) (_ : rowMatches s q r = true),
        r ∈ query s [mergeFile s build groups] q) := by
  intro H
  have hg : ∀ g ∈ [[b1, b2]], ValidGroup g := List.forall_mem_singleton.2 <| validGroup_pair rfl fun k => by
    simp only [b1, b2, List.lookup_cons, List.lookup_nil]
    cases (k == "k") <;> rfl
  have hwf : ∀ g ∈ [[b1, b2]], ∀ b ∈ g, BlockWF sem b := List.forall_mem_singleton.2 <| List.forall_mem_cons.2
    ⟨List.forall_mem_singleton.2 ⟨⟨rfl, fun _ _ h => nomatch h⟩, filtCovers_empty _⟩,
     List.forall_mem_singleton.2 fun _ h => nomatch h⟩
  -- `lookup` finds only the first binding of "k": the pair beyond int64 in `b2` is invisible to `MDWF`
  have hmd : ∀ g ∈ [[b1, b2]], ∀ b ∈ g, MDWF b.md := by
    refine List.forall_mem_singleton.2 (List.forall_mem_cons.2 ⟨?_, List.forall_mem_singleton.2 ?_⟩) <;>
      (intro k mm hl
       simp only [lookupMM, b1, b2, List.lookup_cons, List.lookup_nil] at hl
       cases hk : (k == "k") <;> rw [hk] at hl <;> cases hl
       decide)
  -- the merged file answers `q` with nothing
  have h : row ∈ ([] : List Row) := H sem build soundBuild_contains (fun _ => true) [[b1, b2]] q hg hwf hmd
    (fun _ h => nomatch h) [b1, b2] b1 row List.mem_cons_self List.mem_cons_self List.mem_cons_self rfl rfl
  cases h

end MergeCE

end BloomVerif
