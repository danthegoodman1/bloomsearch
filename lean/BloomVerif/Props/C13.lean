/-
  C13 — Merge is all-or-nothing and commits only durable output. For a failure at every position
  of every store call kind of a multi-group merge (`fail` is an arbitrary predicate on positions).
  The theorems speak of the value `merge` returns (`MergeOut`: result, committed flag, tombstone
  counts). It carries no call log: that Update comes after every output's Close and before the
  source tombstones is how the model defines `merge`, not something stated here.
-/
import BloomVerif.Lemmas.Proto
namespace BloomVerif.C13
open BloomVerif.Proto

/-- **C13**: either the merge committed (MetaStore.Update applied: outputs referenced, sources
    unreferenced), with one tombstone call per source, no output tombstoned and no plain error returned;
    or nothing changed in the MetaStore, no source tombstone was issued, and an error is returned unless
    there was nothing to merge. -/
theorem C13_atomic (p : MergePlanCalls) (fail : Nat → Bool) :
    ((merge p fail).committed = true ∧ (merge p fail).outputsTombstoned = 0 ∧
      (merge p fail).sourcesTombstoneCalls = p.sources ∧ (merge p fail).result ≠ .err) ∨
    ((merge p fail).committed = false ∧ (merge p fail).sourcesTombstoneCalls = 0 ∧
      ((merge p fail).result = .err ∨ (p.groups = [] ∧ (merge p fail).result = .ok))) :=
  (merge_spec p fail).atomic

/-- Merge returns a nil error (with work to do) only when it committed and every source tombstone
    succeeded. -/
theorem return_nil_iff_committed_clean (p : MergePlanCalls) (fail : Nat → Bool) (hg : p.groups ≠ []) :
    (merge p fail).result = .ok ↔
      ((merge p fail).committed = true ∧
       (List.range p.sources).all (fun j => !fail (1 + totalCalls p.groups + 1 + j)) = true) :=
  (merge_spec p fail).ok hg

/-- Witness plan for the non-vacuity examples: two groups (one reading a source, 6 + 3 calls) and four sources. -/
private def nv_plan : MergePlanCalls :=
  ⟨[[.create, .openR, .read, .closeR, .write, .close], [.create, .write, .close]], 4⟩

/-- non-vacuity: the premise of `return_nil_iff_committed_clean` holds for that plan, and both sides of the
    equivalence are true for a run whose only fault is an (ignored) reader Close error -/
example : nv_plan.groups ≠ [] ∧ (merge nv_plan (fun k => k == 4)).result = .ok ∧
    (merge nv_plan (fun k => k == 4)).committed = true :=
  ⟨by decide, by decide, ((return_nil_iff_committed_clean nv_plan (fun k => k == 4) (by decide)).1 (by decide)).1⟩

/-- non-vacuity: … and both sides are false when the third source tombstone (call 1 + 9 + 1 + 2) fails -/
example : nv_plan.groups ≠ [] ∧ (merge nv_plan (fun k => k == 13)).result = .postCommitErr ∧
    (List.range nv_plan.sources).all (fun j => !(fun k => k == 13) (1 + totalCalls nv_plan.groups + 1 + j)) = false :=
  ⟨by decide, by decide, by decide⟩

/-- ErrPostCommitCleanup (with stats) exactly when it committed but a source tombstone failed. -/
theorem postcommit_err_iff (p : MergePlanCalls) (fail : Nat → Bool) :
    (merge p fail).result = .postCommitErr ↔
      ((merge p fail).committed = true ∧
       (List.range p.sources).any (fun j => fail (1 + totalCalls p.groups + 1 + j)) = true) :=
  (merge_spec p fail).postCommit

/-- When it does not commit, no more outputs are tombstoned than there are groups (one output each). -/
theorem orphans_bounded (p : MergePlanCalls) (fail : Nat → Bool) (h : (merge p fail).committed = false) :
    (merge p fail).outputsTombstoned ≤ p.groups.length :=
  (merge_spec p fail).orphans h

/-- non-vacuity: the premise of `orphans_bounded` holds for the two-group plan when the second group's write
    (call 8) fails -/
example : (merge nv_plan (fun k => k == 8)).committed = false ∧ (merge nv_plan (fun k => k == 8)).outputsTombstoned = 2 ∧
    (merge nv_plan (fun k => k == 8)).outputsTombstoned ≤ nv_plan.groups.length :=
  ⟨by decide, by decide, orphans_bounded nv_plan (fun k => k == 8) (by decide)⟩

/-- Non-vacuity: a fault-free two-group merge commits. -/
example : (merge ⟨[[.create, .openR, .read, .closeR, .write, .close], [.create, .write, .close]], 4⟩ (fun _ => false)).committed = true := by
  decide

/-- Non-vacuity: a read failure in the second group leaves one orphan output tombstoned plus the group's own. -/
example : merge ⟨[[.create, .write, .close], [.create, .openR, .read, .closeR, .write, .close]], 4⟩ (fun k => k == 6) =
    { result := .err, committed := false, outputsTombstoned := 2, sourcesTombstoneCalls := 0 } := by decide

end BloomVerif.C13
