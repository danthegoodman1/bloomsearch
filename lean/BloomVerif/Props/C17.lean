/-
  C17 — Every written file describes itself truthfully (framing and layout part; JSON metadata,
  codecs and CRC32C are opaque and covered by the correspondence check).
-/
import BloomVerif.Lemmas.Format
namespace BloomVerif.C17

/-- Reading what was written: the scanner returns exactly the rows that were length-prefixed. -/
theorem scan_encode (rs : List Bytes) (h : ∀ r ∈ rs, r.length < 4294967296) (fuel : Nat)
    (hf : rs.length ≤ fuel) : scanRows fuel (encodeRows rs) = .ok rs := by
  induction rs generalizing fuel with
  | nil => cases fuel <;> simp [encodeRows, scanRows]
  | cons r rs ih =>
    cases fuel with
    | zero => simp at hf
    | succ fuel =>
      have hr : r.length < 4294967296 := h r (by simp)
      have ih' := ih (fun x hx => h x (by simp [hx])) fuel (by simpa using hf)
      simp only [encodeRows, u32le, List.cons_append, List.nil_append, scanRows]
      rw [show u32dec _ _ _ _ = r.length from u32dec_u32le_aux _ hr]
      simp [ih']

/-- non-vacuity: three rows (one of them empty) within the uint32 length limit and enough fuel; the scanner returns them -/
example :
    let rs : List Bytes := [[1, 2, 3], [], [255, 0]]
    ((∀ r ∈ rs, r.length < 4294967296) ∧ rs.length ≤ 5) ∧ scanRows 5 (encodeRows rs) = .ok rs ∧
    encodeRows rs = [3, 0, 0, 0, 1, 2, 3, 0, 0, 0, 0, 2, 0, 0, 0, 255, 0] := by
  intro rs
  have h : (∀ r ∈ rs, r.length < 4294967296) ∧ rs.length ≤ 5 := by decide
  exact ⟨h, scan_encode rs h.1 5 h.2, by decide⟩

/-- … and nothing else scans successfully to those rows: the row section is determined by its rows. -/
theorem encode_scan (fuel : Nat) (bs : Bytes) (rs : List Bytes) (hf : bs.length < fuel)
    (h : scanRows fuel bs = .ok rs) : encodeRows rs = bs := by
  induction fuel generalizing bs rs with
  | zero => omega
  | succ fuel ih =>
    rcases scanRows_ok_inv h with ⟨rfl, rfl⟩ | ⟨a, b, c, d, rest, rs', rfl, hn, hrs, rfl⟩
    · rfl
    · have := ih _ rs' (by simp only [List.length_cons, List.length_drop] at hf ⊢; omega) hrs
      rw [encodeRows, this, List.length_take, Nat.min_eq_left hn, u32le_u32dec]
      simp only [List.cons_append, List.nil_append, List.take_append_drop]

/-- non-vacuity: a ten-byte section that scans successfully (a two-byte row, then an empty row) with fuel above its length -/
example :
    let bs : Bytes := [2, 0, 0, 0, 9, 8, 0, 0, 0, 0]
    let rs : List Bytes := [[9, 8], []]
    (bs.length < 11 ∧ scanRows 11 bs = .ok rs) ∧ encodeRows rs = bs := by
  intro bs rs
  have h : bs.length < 11 ∧ scanRows 11 bs = .ok rs := ⟨by decide, by rfl⟩
  exact ⟨h, encode_scan 11 bs rs h.1 h.2⟩

/-- Row data blocks are contiguous from offset 0 and the filter region follows them with each
    block's section in block order. -/
theorem layout_contiguous (bs : List BlockSize) :
    (layout bs).DataBlocks.length = bs.length ∧
    ∀ i (hi : i < bs.length) (hj : i < (layout bs).DataBlocks.length),
      ((layout bs).DataBlocks[i]).RowDataOffset = (sumRow (bs.take i) : Int) ∧
      ((layout bs).DataBlocks[i]).RowDataSize = (bs[i].rowData : Int) ∧
      ((layout bs).DataBlocks[i]).BloomFilterOffset = (sumRow bs + sumFilter (bs.take i) : Int) ∧
      ((layout bs).DataBlocks[i]).BloomFilterSize = (bs[i].filter : Int) := by
  refine ⟨layoutBlocks_length _ _ _ _, fun i hi hj => ?_⟩
  have e : (layout bs).DataBlocks[i]? = _ := layoutBlocks_getElem? (sumRow bs) 0 0 bs i
  rw [List.getElem?_eq_getElem hj, List.getElem?_eq_getElem hi, Option.map_some, Option.some.injEq] at e
  simp [e]

/-- A file laid out this way passes the reader's validation (the function regenerated from
    /repo's Go source) for any data area that holds it. -/
theorem layout_validates (bs : List BlockSize) (dataLimit : Int)
    (h : (sumRow bs + sumFilter bs : Int) ≤ dataLimit) (hd : InI64 dataLimit) :
    Gen.validate (layout bs) dataLimit = true := by
  rw [validate_bridge hd.2]; exact validFile_iff.mpr (layout_inBounds bs dataLimit h)

/-- non-vacuity: a three-block layout (one block without a filter section) in a data area of exactly its size, and in a larger one -/
example :
    let bs : List BlockSize := [⟨10, 3⟩, ⟨0, 0⟩, ⟨7, 5⟩]
    (((sumRow bs + sumFilter bs : Int) ≤ 25 ∧ InI64 25) ∧ Gen.validate (layout bs) 25 = true) ∧
    (((sumRow bs + sumFilter bs : Int) ≤ 4096 ∧ InI64 4096) ∧ Gen.validate (layout bs) 4096 = true) := by
  intro bs
  have h1 : (sumRow bs + sumFilter bs : Int) ≤ 25 ∧ InI64 25 := by decide
  have h2 : (sumRow bs + sumFilter bs : Int) ≤ 4096 ∧ InI64 4096 := by decide
  exact ⟨⟨h1, layout_validates bs 25 h1.1 h1.2⟩, ⟨h2, layout_validates bs 4096 h2.1 h2.2⟩⟩

/-- Non-vacuity: a three-block layout (one block without a filter section). -/
example : (layout [⟨10, 3⟩, ⟨0, 0⟩, ⟨7, 5⟩]).DataBlocks.map (fun b => (b.RowDataOffset, b.BloomFilterOffset)) =
    [(0, 17), (10, 20), (10, 20)] := by decide

end BloomVerif.C17
