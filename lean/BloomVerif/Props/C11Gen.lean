/-
  C11 on the code as regenerated from `merge.go` (T-gen, `Bridge/MergeMM`): the union of two blocks' minmax maps
  that the merge executor computes. `C11_partition_minmax` (Props/C11) is about the model's `mergeMM`; these
  theorems say that the real function is that one, and state the covering fact on it directly.
-/
import BloomVerif.Bridge.MergeMM
namespace BloomVerif.C11
open BloomVerif.Bridge

/-- The regenerated `mergeMinMaxIndexes` is the model's `mergeMM` (a Go map's keys are distinct). -/
theorem merge_minmax_is_model_generated (a b : List (String × MinMaxIndex)) (hnd : (a.map (·.1)).Nodup) :
    Gen.mergeMinMaxIndexes a b = mergeMM a b :=
  mergeMM_generated a b hnd

/-- **Merged ranges cover both sources (regenerated code)**: every key of either block's minmax map is a key of
    the merged map, and its merged range contains the source's range - so a row whose value lay inside its
    block's range before the merge lies inside its block's range afterwards. -/
theorem C11_minmax_merge_generated (a b : List (String × MinMaxIndex)) (hnd : (a.map (·.1)).Nodup) :
    MMLe a (Gen.mergeMinMaxIndexes a b) ∧
    ∀ k mm, (k, mm) ∈ b →
      ∃ mm', List.lookup k (Gen.mergeMinMaxIndexes a b) = some mm' ∧ mm'.Min ≤ mm.Min ∧ mm.Max ≤ mm'.Max :=
  ⟨mergeMM_generated a b hnd ▸ mergeMM_le a b, mergeMM_generated_covers a b hnd⟩

/-- non-vacuity: the premise holds for a one-key map, and the second block's range [5,30] strictly contains the
    first's [10,20] on both ends (the shape on which a one-sided update loses the upper bound); a key only the
    second block has is added -/
example : ((([("n", ⟨10, 20⟩)] : List (String × MinMaxIndex)).map (·.1)).Nodup) ∧
    Gen.mergeMinMaxIndexes [("n", ⟨10, 20⟩)] [("n", ⟨5, 30⟩), ("m", ⟨1, 1⟩)] = [("n", ⟨5, 30⟩), ("m", ⟨1, 1⟩)] := by
  decide

end BloomVerif.C11
