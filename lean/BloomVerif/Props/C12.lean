/-
  C12 — Merge output respects the configured layout limits. Loop invariants over the greedy folds,
  for every block size/row distribution and every limit setting.
-/
import BloomVerif.Lemmas.MergePlan
import BloomVerif.Generated.Leaf
import BloomVerif.Lemmas.MergeKey
namespace BloomVerif.C12

/-- A block produced by combining blocks holds at most MaxRowGroupRows rows and MaxRowGroupBytes
    uncompressed bytes (the cumulative check, not only the pairwise one). -/
theorem group_within_limits (cfg : EngineConfig) (blocks : List BShape) (g : List BShape)
    (hg : g ∈ blockGroups cfg blocks) (h2 : 2 ≤ g.length) :
    sumRows g ≤ cfg.MaxRowGroupRows ∧ sumSize g ≤ cfg.MaxRowGroupBytes :=
  (blockGroups_group cfg blocks g hg).limits h2

theorem nv_blockGroups :
    blockGroups { MaxRowGroupRows := 10, MaxRowGroupBytes := 1000 }
        [⟨0, "k", 4, 10⟩, ⟨1, "k", 5, 10⟩, ⟨2, "k", 5, 10⟩, ⟨3, "j", 1, 1⟩] =
      [[⟨0, "k", 4, 10⟩, ⟨1, "k", 5, 10⟩], [⟨2, "k", 5, 10⟩], [⟨3, "j", 1, 1⟩]] := by decide

/-- non-vacuity: with limits 10 rows / 1000 bytes, three blocks share key "k" and pair with the seed but only two fit cumulatively: a two-block group within both limits -/
example :
    let cfg : EngineConfig := { MaxRowGroupRows := 10, MaxRowGroupBytes := 1000 }
    let blocks : List BShape := [⟨0, "k", 4, 10⟩, ⟨1, "k", 5, 10⟩, ⟨2, "k", 5, 10⟩, ⟨3, "j", 1, 1⟩]
    let g : List BShape := [⟨0, "k", 4, 10⟩, ⟨1, "k", 5, 10⟩]
    (g ∈ blockGroups cfg blocks ∧ 2 ≤ g.length) ∧
    (sumRows g ≤ cfg.MaxRowGroupRows ∧ sumSize g ≤ cfg.MaxRowGroupBytes) ∧ sumRows g = 9 ∧ sumSize g = 20 := by
  intro cfg blocks g
  have h : g ∈ blockGroups cfg blocks ∧ 2 ≤ g.length := ⟨nv_blockGroups ▸ .head _, by decide⟩
  exact ⟨h, group_within_limits cfg blocks g h.1 h.2, by decide, by decide⟩

/-- It combines only blocks with one merge key (one partition, one minmax key set). -/
theorem group_same_key (cfg : EngineConfig) (blocks : List BShape) (g : List BShape)
    (hg : g ∈ blockGroups cfg blocks) : ∀ a ∈ g, ∀ b ∈ g, a.key = b.key :=
  (blockGroups_group cfg blocks g hg).sameKey

/-- non-vacuity: a three-block group collected across an interleaved block of another key -/
example :
    let cfg : EngineConfig := { MaxRowGroupRows := 20, MaxRowGroupBytes := 1000 }
    let blocks : List BShape := [⟨0, "k", 4, 10⟩, ⟨1, "j", 5, 10⟩, ⟨2, "k", 5, 10⟩, ⟨3, "k", 6, 30⟩, ⟨4, "j", 30, 1⟩]
    let g : List BShape := [⟨0, "k", 4, 10⟩, ⟨2, "k", 5, 10⟩, ⟨3, "k", 6, 30⟩]
    g ∈ blockGroups cfg blocks ∧ (∀ a ∈ g, ∀ b ∈ g, a.key = b.key) := by
  intro cfg blocks g
  have h : g ∈ blockGroups cfg blocks := by decide
  exact ⟨h, group_same_key cfg blocks g h⟩

/-- The groups partition the blocks: nothing is dropped, nothing is duplicated. -/
theorem groups_partition (cfg : EngineConfig) (blocks : List BShape) :
    ((blockGroups cfg blocks).flatMap id).Perm blocks ∧ ∀ g ∈ blockGroups cfg blocks, g ≠ [] :=
  ⟨blockGroups_perm cfg blocks, fun g hg => (blockGroups_group cfg blocks g hg).nonempty⟩

/-- One Merge call removes at most MaxFilesToMergePerOperation source files … -/
theorem file_groups_count (cfg : EngineConfig) (cands : List Cand) :
    (((fileGroups cfg cands).map List.length).sum : Int) ≤ max cfg.MaxFilesToMergePerOperation 0 := by
  have := (fileGroups_spec cfg cands).count
  omega

/-- … every group has at least two files and the files merged into one output total at most
    MaxFileSize bytes (size as recorded in metadata). -/
theorem file_group_size (cfg : EngineConfig) (cands : List Cand) (g : List Cand)
    (hg : g ∈ fileGroups cfg cands) : 2 ≤ g.length ∧ sumTotal g ≤ cfg.MaxFileSize :=
  (fileGroups_spec cfg cands).groups g hg

/-- non-vacuity: five candidates, MaxFileSize 100, at most 3 files per operation: file 1 is too large, file 3 has no mergeable pair, files 0, 2, 4 form the one group -/
example :
    let cfg : EngineConfig := { MaxRowGroupRows := 10, MaxRowGroupBytes := 1000, MaxFileSize := 100, MaxFilesToMergePerOperation := 3 }
    let c0 : Cand := ⟨0, 40, [⟨0, "k", 4, 10⟩, ⟨1, "j", 9, 10⟩]⟩
    let c1 : Cand := ⟨1, 70, [⟨2, "k", 5, 10⟩]⟩
    let c2 : Cand := ⟨2, 50, [⟨3, "k", 5, 10⟩]⟩
    let c3 : Cand := ⟨3, 5, [⟨4, "j", 2, 1⟩]⟩
    let c4 : Cand := ⟨4, 5, [⟨5, "k", 1, 1⟩]⟩
    [c0, c2, c4] ∈ fileGroups cfg [c0, c1, c2, c3, c4] ∧ fileGroups cfg [c0, c1, c2, c3, c4] = [[c0, c2, c4]] ∧
    (2 ≤ [c0, c2, c4].length ∧ sumTotal [c0, c2, c4] ≤ cfg.MaxFileSize) := by
  intro cfg c0 c1 c2 c3 c4
  have e : fileGroups cfg [c0, c1, c2, c3, c4] = [[c0, c2, c4]] := by rfl
  have h : [c0, c2, c4] ∈ fileGroups cfg [c0, c1, c2, c3, c4] := by rw [e]; exact .head _
  exact ⟨h, e, file_group_size cfg _ _ h⟩

/-- No candidate is used twice: the grouped files are (a permutation of) a sublist of the candidates. -/
theorem file_groups_members (cfg : EngineConfig) (cands : List Cand) :
    ((fileGroups cfg cands).flatMap id).Sublist cands ∨
    ∃ l, ((fileGroups cfg cands).flatMap id).Perm l ∧ l.Sublist cands := by
  obtain ⟨lo, h⟩ := (fileGroups_spec cfg cands).perm
  obtain ⟨l, hl1, hl2⟩ := List.exists_perm_sublist (List.sublist_append_left _ lo) h
  exact .inr ⟨l, hl1.symm, hl2⟩

/-- The limit check regenerated from /repo's Go source is the model's, absent overflow. -/
theorem within_generated (cfg : EngineConfig) (a b : BShape)
    (ha : InI64 (a.rows + b.rows)) (hb : InI64 (a.size + b.size)) :
    Gen.blocksWithinMergeLimits ⟨cfg⟩ ⟨a.rows, a.size⟩ ⟨b.rows, b.size⟩ = within cfg a b := by
  simp only [Gen.blocksWithinMergeLimits, within, wadd, wrap64_id ha, wrap64_id hb]

/-- non-vacuity: two large blocks whose row and byte sums stay inside int64 (rows sum to exactly 2^63 - 1) -/
example :
    let cfg : EngineConfig := { MaxRowGroupRows := maxInt64, MaxRowGroupBytes := 1000 }
    let a : BShape := ⟨0, "k", 4611686018427387904, 600⟩
    let b : BShape := ⟨1, "k", 4611686018427387903, 500⟩
    (InI64 (a.rows + b.rows) ∧ InI64 (a.size + b.size)) ∧
    Gen.blocksWithinMergeLimits ⟨cfg⟩ ⟨a.rows, a.size⟩ ⟨b.rows, b.size⟩ = within cfg a b ∧ within cfg a b = false := by
  intro cfg a b
  have h : InI64 (a.rows + b.rows) ∧ InI64 (a.size + b.size) := by decide
  exact ⟨h, within_generated cfg a b h.1 h.2, by decide⟩

/-- Non-vacuity: three blocks that pair with the seed but only two fit cumulatively. -/
example :
    let cfg : EngineConfig := { MaxRowGroupRows := 10, MaxRowGroupBytes := 1000 }
    blockGroups cfg [⟨0, "k", 4, 10⟩, ⟨1, "k", 5, 10⟩, ⟨2, "k", 5, 10⟩, ⟨3, "j", 1, 1⟩] =
      [[⟨0, "k", 4, 10⟩, ⟨1, "k", 5, 10⟩], [⟨2, "k", 5, 10⟩], [⟨3, "j", 1, 1⟩]] := nv_blockGroups

/-- The encoding itself is uniquely decodable (no sortedness needed). -/
theorem merge_key_encoding_injective (p p' : List Nat) (ks ks' : List (List Nat))
    (h : MergeKey.encodeKey p ks = MergeKey.encodeKey p' ks') : p = p' ∧ ks = ks' := by
  obtain ⟨h1, h2⟩ := MergeKey.lenPrefixed_append_inj _ _ _ _ h
  exact ⟨h1, MergeKey.flatMap_lenPrefixed_inj _ _ h2⟩

/-- The bucket key the planner groups by (`blockMergeKey`: uvarint-length-prefixed partition id, then the
    sorted minmax key names, each length-prefixed) identifies exactly the pair (partition, key set):
    two blocks get the same key bytes iff their partitions are equal and their key-name lists are
    permutations of each other - for every partition id and every set of names, whatever bytes they
    contain (separators, prefixes of one another, names of 128 bytes and more). This is the key that
    `group_same_key` speaks of (there a string, as `blockMergeKey` computes it). -/
theorem merge_key_exact (p p' : List Nat) (ks ks' : List (List Nat)) :
    MergeKey.blockMergeKey p ks = MergeKey.blockMergeKey p' ks' ↔ p = p' ∧ ks.Perm ks' := by
  unfold MergeKey.blockMergeKey
  constructor
  · intro h
    obtain ⟨h1, h2⟩ := merge_key_encoding_injective _ _ _ _ h
    exact ⟨h1, (List.mergeSort_perm ks _).symm.trans (h2 ▸ List.mergeSort_perm ks' _)⟩
  · rintro ⟨rfl, h⟩
    rw [MergeKey.sort_canonical _ _ h]

/-- non-vacuity: key sets {x, yy} and {xy, y} concatenate to the same name bytes "xyy" but get different
    keys, and the iteration order of the map does not matter ("x"=120, "y"=121) -/
example :
    MergeKey.blockMergeKey [112] [[120], [121, 121]] ≠ MergeKey.blockMergeKey [112] [[120, 121], [121]] ∧
    MergeKey.blockMergeKey [112] [[121, 121], [120]] = MergeKey.blockMergeKey [112] [[120], [121, 121]] := by
  constructor
  · intro h
    have := ((merge_key_exact _ _ _ _).mp h).2
    revert this; decide
  · exact (merge_key_exact _ _ _ _).mpr ⟨rfl, by decide⟩

/-- the theorem applied: the boundary between partition and keys cannot be shifted - partition "ab" without keys
    and partition "a" with the key "b" get different encodings -/
example : MergeKey.encodeKey [97, 98] [] ≠ MergeKey.encodeKey [97] [[98]] := by
  intro h
  have := (merge_key_encoding_injective _ _ _ _ h).1
  revert this; decide

end BloomVerif.C12
