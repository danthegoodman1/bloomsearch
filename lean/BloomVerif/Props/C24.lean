/-
  C24 — Pruning is effective: disqualified data is never read (model: failure-free, uncancelled
  runs; the extents actually read are compared with the plan on the implementation).
-/
import BloomVerif.Lemmas.ReadPlan
namespace BloomVerif.C24
open BloomVerif.ReadPlan

/-- A file is opened only if it has prefilter-surviving blocks and (when there are bloom/regex
    conditions) its file-level filters do not rule out the query. -/
theorem open_requires (hb : Bool) (f : QFile) (h : (filePlan hb f).opened = true) :
    kept f ≠ [] ∧ (hb = true → f.fileFilt = true) := by
  rcases filePlan_cases hb f with e | ⟨h1, h2, _⟩
  · rw [e] at h; cases h
  · exact ⟨h1, h2⟩

/-- non-vacuity: the premise of `open_requires` holds for a three-block file with bloom conditions whose file-level filters pass; two of its blocks survive the prefilter -/
example : ∃ f : QFile, (filePlan true f).opened = true ∧ f.blocks.length = 3 ∧ (kept f).length = 2 :=
  ⟨⟨true, [⟨0, 5, true, false, 9⟩, ⟨40, 3, true, true, 9⟩, ⟨80, 1, false, true, 9⟩]⟩, by decide, by decide, by decide⟩

/-- non-vacuity: the premise also holds without bloom conditions for a file whose file-level filters would have ruled the query out -/
example : ∃ f : QFile, (filePlan false f).opened = true ∧ f.fileFilt = false ∧ (kept f).length = 1 :=
  ⟨⟨false, [⟨0, 5, true, false, 9⟩, ⟨40, 3, false, true, 0⟩]⟩, by decide, by decide, by decide⟩

/-- Row data of a block is read only if its metadata satisfies the prefilter and its filters do
    not rule the query out. -/
theorem rowread_requires (hb : Bool) (f : QFile) (o : Nat) (h : o ∈ rowReads (filePlan hb f)) :
    ∃ b ∈ f.blocks, b.off = o ∧ b.pre = true ∧ (hb = true → b.secSize > 0 → b.filt = true) := by
  obtain ⟨⟨o', st⟩, hm, rfl⟩ := List.mem_map.mp h
  obtain ⟨hm, hp⟩ := List.mem_filter.mp hm
  rcases filePlan_cases hb f with e | ⟨_, _, e, _⟩ <;> rw [e] at hm
  · cases hm
  · obtain ⟨b, hbk, hbe⟩ := List.mem_map.mp hm
    obtain ⟨rfl, rfl⟩ := Prod.mk.inj hbe
    obtain ⟨h1, h2⟩ := List.mem_filter.mp hbk
    refine ⟨b, h1, rfl, h2, fun hbt hsz => ?_⟩
    unfold blockStat at hp
    cases hf : b.filt
    · simp [hbt, hsz, hf] at hp
    · rfl

/-- non-vacuity: the premise of `rowread_requires` holds for block 40 of a three-block file (block 0 is pruned by its filters, block 80 by the prefilter) -/
example : ∃ (f : QFile) (o : Nat), o ∈ rowReads (filePlan true f) ∧ o = 40 ∧ f.blocks.length = 3 :=
  ⟨⟨true, [⟨0, 5, true, false, 9⟩, ⟨40, 3, true, true, 9⟩, ⟨80, 1, false, true, 9⟩]⟩, 40, by decide, by decide, by decide⟩

/-- Without bloom or regex conditions no block filter region is read. -/
theorem no_region_read_without_conditions (f : QFile) : (filePlan false f).regionRead = false := by
  rcases filePlan_cases false f with e | ⟨_, _, _, e⟩ <;> rw [e]; rfl

/-- Non-vacuity: one block pruned by its filters, one scanned, one dropped by the prefilter. -/
example : filePlan true ⟨true, [⟨0, 5, true, false, 9⟩, ⟨40, 3, true, true, 9⟩, ⟨80, 1, false, true, 9⟩]⟩ =
    ⟨true, true, [(0, .skipped), (40, .processed)]⟩ := by decide

end BloomVerif.C24
