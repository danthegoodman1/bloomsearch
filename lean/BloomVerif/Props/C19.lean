/-
  C19 — Corrupted or malformed files fail cleanly (bounds part): whatever values the framing fields
  hold (any int64), metadata accepted by the reader's validation — the function regenerated from
  /repo's Go source — drives no read, slice or allocation outside the file, and no intermediate
  addition or subtraction of the validation overflows.
-/
import BloomVerif.Lemmas.Format
import BloomVerif.Bridge.Scanner
import BloomVerif.Bridge.ScannerList
import BloomVerif.Bridge.Held
import BloomVerif.Bridge.Chunk
namespace BloomVerif

instance (b : DataBlockMetadata) : Decidable (BlockI64 b) := by unfold BlockI64; infer_instance
instance (m : FileMetadata) : Decidable (FileI64 m) := by unfold FileI64; infer_instance

end BloomVerif
namespace BloomVerif.C19

/-- The regenerated (wrapping, int64) validation equals the exact-arithmetic model on every int64
    input: no subtraction or addition on its path overflows. -/
theorem validate_no_overflow (m : FileMetadata) (dataLimit : Int) (hm : FileI64 m) (hd : InI64 dataLimit) :
    Gen.validate m dataLimit = validFile m dataLimit :=
  validate_bridge_aux m dataLimit hm hd

/-- witness metadata: every framing field at an int64 extreme (a hostile footer) -/
private def nv_hostile : FileMetadata :=
  { BlockFilterRegionOffset := 9223372036854775807, BlockFilterRegionSize := 9223372036854775807,
    DataBlocks := [{ RowDataOffset := -9223372036854775808, RowDataSize := 9223372036854775807,
                     BloomFilterOffset := 9223372036854775807, BloomFilterSize := 9223372036854775807 }] }

theorem nv_layout_I64 : FileI64 (layout [⟨10, 3⟩, ⟨0, 0⟩, ⟨7, 5⟩]) := by decide

/-- non-vacuity: the premises of `validate_no_overflow` hold for the metadata of a written three-block file and for a footer with every field at an int64 extreme; on the latter both sides are `false` -/
example : (FileI64 (layout [⟨10, 3⟩, ⟨0, 0⟩, ⟨7, 5⟩]) ∧ InI64 30) ∧
    (FileI64 nv_hostile ∧ InI64 9223372036854775807) ∧
    Gen.validate nv_hostile 9223372036854775807 = false ∧ validFile nv_hostile 9223372036854775807 = false := by
  exact ⟨⟨nv_layout_I64, by decide⟩, by decide, by decide, by decide⟩

theorem validateFilterSection_no_overflow (b : DataBlockMetadata) (ro re : Int) (hb : BlockI64 b)
    (h1 : InI64 ro) (h2 : InI64 re) (h3 : re - ro ≤ maxInt64) :
    Gen.validateFilterSection b ro re = validSection b ro re :=
  validSection_bridge_aux b ro re hb h1 h2 h3

/-- non-vacuity: the premises of `validateFilterSection_no_overflow` hold for an ordinary section inside its region and for a section with offset and size at `maxInt64` in the widest admissible region `[0, maxInt64]`; the latter is rejected by both sides -/
example : (BlockI64 { BloomFilterOffset := 12, BloomFilterSize := 5 } ∧ InI64 10 ∧ InI64 20 ∧ (20 : Int) - 10 ≤ maxInt64) ∧
    (BlockI64 { BloomFilterOffset := 9223372036854775807, BloomFilterSize := 9223372036854775807 } ∧
      InI64 0 ∧ InI64 9223372036854775807 ∧ (9223372036854775807 : Int) - 0 ≤ maxInt64) ∧
    Gen.validateFilterSection { BloomFilterOffset := 12, BloomFilterSize := 5 } 10 20 = true ∧
    Gen.validateFilterSection { BloomFilterOffset := 9223372036854775807, BloomFilterSize := 9223372036854775807 }
      0 9223372036854775807 = false := by
  decide

/-- **Acceptance implies in-bounds**, for all values of the framing fields: the region lies in the
    data area, every block's row data lies before the region, every filter section lies inside the
    region — so every extent a reader seeks to or allocates for is at most the file's size. -/
theorem C19_validate_ok_in_bounds (m : FileMetadata) (dataLimit : Int) (hm : FileI64 m) (hd : InI64 dataLimit)
    (h : Gen.validate m dataLimit = true) : InBounds m dataLimit := by
  have _ := hm  -- not needed: the fields may hold any integers
  exact validFile_iff.mp (validate_bridge hd.2 ▸ h)

/-- non-vacuity: the premises of `C19_validate_ok_in_bounds` hold for the metadata of a written three-block file (one block without a filter section) with 15 bytes to spare; the theorem applies -/
example : FileI64 (layout [⟨10, 3⟩, ⟨0, 0⟩, ⟨7, 5⟩]) ∧ InI64 40 ∧
    Gen.validate (layout [⟨10, 3⟩, ⟨0, 0⟩, ⟨7, 5⟩]) 40 = true ∧ InBounds (layout [⟨10, 3⟩, ⟨0, 0⟩, ⟨7, 5⟩]) 40 := by
  have hv : Gen.validate (layout [⟨10, 3⟩, ⟨0, 0⟩, ⟨7, 5⟩]) 40 = true := by decide
  exact ⟨nv_layout_I64, by decide, hv, C19_validate_ok_in_bounds _ 40 nv_layout_I64 (by decide) hv⟩

/-- A section served from the chunk in hand is sliced inside the chunk buffer. -/
theorem held_section_in_buf (b : DataBlockMetadata) (chunkStart bufLen lo hi : Int)
    (hlen : 0 ≤ bufLen) (hsz : 0 ≤ b.BloomFilterSize)
    (h : heldSection b chunkStart bufLen = some (lo, hi)) :
    0 ≤ lo ∧ lo ≤ hi ∧ hi ≤ bufLen ∧ hi - lo = b.BloomFilterSize := by
  have _ := hlen
  simp only [heldSection, Option.ite_none_left_eq_some, Option.some.injEq, Prod.mk.injEq] at h
  omega

/-- non-vacuity: the premises of `held_section_in_buf` hold for a 16-byte section at offset 120 served from a 64-byte chunk read at 100; the slice is `[20, 36)` -/
example : (0 : Int) ≤ 64 ∧ (0 : Int) ≤ ({ BloomFilterOffset := 120, BloomFilterSize := 16 } : DataBlockMetadata).BloomFilterSize ∧
    heldSection { BloomFilterOffset := 120, BloomFilterSize := 16 } 100 64 = some (20, 36) := by decide

/-- A chunk read for a validated section starts at that section, covers it, stays inside the
    region, and is no larger than the chunk target unless the section alone is. -/
theorem chunk_within_region (target rs re : Int) (b : DataBlockMetadata) (following : List DataBlockMetadata)
    (ht : 0 ≤ target) (hv : validSection b rs re = true) (hs : 0 < b.BloomFilterSize) :
    rs ≤ (chunkFor target rs re b following).1 ∧
    (chunkFor target rs re b following).1 = b.BloomFilterOffset ∧
    b.BloomFilterOffset + b.BloomFilterSize ≤ (chunkFor target rs re b following).2 ∧
    (chunkFor target rs re b following).2 ≤ re ∧
    ((chunkFor target rs re b following).2 - (chunkFor target rs re b following).1 ≤ target ∨
     (chunkFor target rs re b following).2 - (chunkFor target rs re b following).1 = b.BloomFilterSize) := by
  have _ := ht
  have hp := (validSection_iff.mp hv).2 hs
  refine ⟨hp.1, rfl, ?_⟩
  refine chunkExtend_induct
    (fun x => b.BloomFilterOffset + b.BloomFilterSize ≤ x ∧ x ≤ re ∧
      (x - b.BloomFilterOffset ≤ target ∨ x - b.BloomFilterOffset = b.BloomFilterSize))
    (fun e nb he hnv hns _ _ _ => ?_) following _ ⟨Int.le_refl _, hp.2, .inr (by omega)⟩
  have := (validSection_iff.mp hnv).2 hns
  omega

/-- non-vacuity: the premises of `chunk_within_region` hold for a valid 10-byte section followed by an empty section, an adjacent 8-byte section (absorbed) and a distant one (past the 32-byte target); the chunk is `[110, 128)` -/
example : (0 : Int) ≤ 32 ∧ validSection { BloomFilterOffset := 110, BloomFilterSize := 10 } 100 200 = true ∧
    (0 : Int) < ({ BloomFilterOffset := 110, BloomFilterSize := 10 } : DataBlockMetadata).BloomFilterSize ∧
    chunkFor 32 100 200 { BloomFilterOffset := 110, BloomFilterSize := 10 }
      [{ BloomFilterOffset := 120, BloomFilterSize := 0 }, { BloomFilterOffset := 120, BloomFilterSize := 8 },
       { BloomFilterOffset := 150, BloomFilterSize := 20 }] = (110, 128) := by decide

/-- A successful scan has consumed no more than the section holds: a length prefix that points past the
    end is not accepted. -/
theorem scanner_in_bounds (fuel : Nat) (bs : Bytes) (rs : List Bytes)
    (h : scanRows fuel bs = .ok rs) : (rs.map (·.length)).sum + 4 * rs.length ≤ bs.length := by
  induction fuel generalizing bs rs with
  | zero => cases h; exact Nat.zero_le _
  | succ fuel ih =>
    rcases scanRows_ok_inv h with ⟨rfl, rfl⟩ | ⟨a, b, c, d, rest, rs', rfl, hn, hrs, rfl⟩
    · exact Nat.le_refl _
    · have := ih _ rs' hrs
      simp only [List.map_cons, List.sum_cons, List.length_cons, List.length_take, List.length_drop] at this ⊢
      omega

/-- non-vacuity: the premise of `scanner_in_bounds` holds for the section written for three rows (one empty); the theorem applies: 4 payload bytes + 3 prefixes ≤ 16 bytes -/
example : scanRows 10 (encodeRows [[1, 2, 3], [], [9]]) = .ok [[1, 2, 3], [], [9]] ∧
    (([[1, 2, 3], [], [9]] : List Bytes).map (·.length)).sum + 4 * ([[1, 2, 3], [], [9]] : List Bytes).length ≤
      (encodeRows [[1, 2, 3], [], [9]]).length :=
  ⟨rfl, scanner_in_bounds 10 _ _ rfl⟩

/-- Non-vacuity: an accepted non-trivial file. -/
example : Gen.validate (layout [⟨10, 3⟩, ⟨0, 0⟩, ⟨7, 5⟩]) 30 = true := by decide

/-- Non-vacuity: offsets near the int64 extremes are rejected rather than wrapped. -/
example : Gen.validate { BlockFilterRegionOffset := 5, BlockFilterRegionSize := 9223372036854775807, DataBlocks := [] } 9223372036854775807 = false := by
  decide

/-- **The row scanner as regenerated from `BlockRowScanner.Next`** (every slice and the 4-byte read of the Go
    text turned into an explicit bounds obligation): from any cursor inside a section whose length fits an int, whatever
    32-bit word stands at the cursor, a step never indexes out of range; a returned row lies inside the
    section right behind its prefix, and the cursor moves strictly forward to the row's end. -/
theorem scanner_generated_in_bounds (n pos : Int) (word : Int → Int)
    (hn : n ≤ 9223372036854775807) (hp : 0 ≤ pos) (hpn : pos ≤ n)
    (hw : 0 ≤ word pos) (hw' : word pos < 4294967296) :
    Gen.BlockRowScanner_Next n pos word ≠ .panic ∧
    ∀ lo hi p', Gen.BlockRowScanner_Next n pos word = .row lo hi p' →
      lo = pos + 4 ∧ hi = lo + word pos ∧ hi ≤ n ∧ p' = hi ∧ pos < p' := by
  rw [Bridge.scanner_step_eq_spec n pos word hn hp hpn hw]
  unfold Bridge.scanStepSpec
  by_cases h1 : pos = n
  · rw [if_pos h1]; exact ⟨nofun, nofun⟩
  by_cases h2 : n - pos < 4
  · rw [if_neg h1, if_pos h2]; exact ⟨nofun, nofun⟩
  by_cases h3 : word pos > n - (pos + 4)
  · rw [if_neg h1, if_neg h2, if_pos h3]; exact ⟨nofun, nofun⟩
  · rw [if_neg h1, if_neg h2, if_neg h3]
    refine ⟨nofun, fun lo hi p' h => ?_⟩
    injection h with e1 e2 e3
    omega

/-- non-vacuity: a 10-byte section whose prefix announces 6 bytes yields the row [4,10); announcing 7 is an
    error, not an out-of-range slice; 3 trailing bytes are an error too -/
example : Gen.BlockRowScanner_Next 10 0 (fun _ => 6) = .row 4 10 10 ∧ Gen.BlockRowScanner_Next 10 0 (fun _ => 7) = .err ∧
    Gen.BlockRowScanner_Next 10 7 (fun _ => 0) = .err ∧ Gen.BlockRowScanner_Next 10 10 (fun _ => 0) = .done ∧
    (Gen.BlockRowScanner_Next 10 0 (fun _ => 6) ≠ .panic ∧ ∀ lo hi p', Gen.BlockRowScanner_Next 10 0 (fun _ => 6) = .row lo hi p' →
      lo = 0 + 4 ∧ hi = lo + 6 ∧ hi ≤ 10 ∧ p' = hi ∧ 0 < p') :=
  ⟨by decide, by decide, by decide, by decide,
   scanner_generated_in_bounds 10 0 (fun _ => 6) (by decide) (by decide) (by decide) (by decide) (by decide)⟩

/-- The regenerated step is the step of the byte-list model: for any section that fits an int and any cursor in
    it, one unfolding of `scanRows` (which `scanner_in_bounds` here and the round-trip theorems of C17 are about)
    is exactly what the regenerated `BlockRowScanner.Next` does at that cursor - same end, same errors, same
    row, same next cursor. (The `.panic` arm only makes the `match` total: by `scanner_generated_in_bounds` the
    step is never `.panic` here, and the value given for it is arbitrary.) -/
theorem scanner_generated_is_model (fuel : Nat) (data : Bytes) (pos : Nat) (hp : pos ≤ data.length)
    (hn : (data.length : Int) ≤ 9223372036854775807) :
    scanRows (fuel + 1) (data.drop pos) =
      match Gen.BlockRowScanner_Next data.length pos (fun o => Bridge.wordAt data o.toNat) with
      | .done => .ok []
      | .err => .error (if data.length - pos < 4 then .truncatedPrefix else .lengthExceeds)
      | .row lo hi p' =>
        (match scanRows fuel (data.drop p'.toNat) with
         | .ok rs => .ok (((data.drop lo.toNat).take (hi - lo).toNat) :: rs)
         | .error e => .error e)
      | .panic => .error .truncatedPrefix := by
  rw [Bridge.scanner_step_eq_spec data.length pos (fun o => Bridge.wordAt data o.toNat) hn (by omega) (by omega)
    (by simp)]
  exact Bridge.scanRows_step fuel data pos hp

/-- non-vacuity: the section written for two rows, scanned from the second row's prefix (cursor 5) -/
example : scanRows 3 ((encodeRows [[7], [8, 9]]).drop 5) = .ok [[8, 9]] ∧
    5 ≤ (encodeRows [[7], [8, 9]]).length ∧ ((encodeRows [[7], [8, 9]]).length : Int) ≤ 9223372036854775807 ∧
    Gen.BlockRowScanner_Next (encodeRows [[7], [8, 9]]).length 5 (fun o => Bridge.wordAt (encodeRows [[7], [8, 9]]) o.toNat) = .row 9 11 11 := by
  refine ⟨by rfl, by decide, by decide, by decide⟩

/-- **`heldSection` as regenerated from the Go text** (the returned slice `c.buf[offset : offset+size]` made an
    explicit bounds obligation): for every chunk position and length and every section (int64 values, the
    section's offset in the chunk too) whose size is not negative (what `validateFilterSection` establishes
    first), it never slices out of range, and it is the
    model's `heldSection` that `held_section_in_buf` is about - a section that starts before the chunk in hand,
    ends behind it or is larger than it is answered "not held". -/
theorem held_section_generated (bufNil : Bool) (bufLen chunkStart : Int) (b : DataBlockMetadata)
    (hl : 0 ≤ bufLen) (hl' : bufLen ≤ 9223372036854775807)
    (hc : InI64 chunkStart) (ho : InI64 b.BloomFilterOffset) (hd : InI64 (b.BloomFilterOffset - chunkStart))
    (hs : 0 ≤ b.BloomFilterSize) (hs' : b.BloomFilterSize ≤ 9223372036854775807) :
    Gen.heldSection bufNil bufLen chunkStart b ≠ .panic ∧
    Gen.heldSection false bufLen chunkStart b =
      (match heldSection b chunkStart bufLen with | none => .none | some (lo, hi) => .some lo hi) := by
  -- `hd` alone keeps the subtraction from wrapping; a held section lies inside the buffer, which gives `hl`, `hs'`
  have _ := hc; have _ := ho; have _ := hl; have _ := hs'
  have hb := Bridge.heldSection_bridge bufLen chunkStart b hl' hd hs
  refine ⟨?_, hb⟩
  cases bufNil
  · rw [hb]; cases heldSection b chunkStart bufLen <;> nofun
  · nofun

/-- non-vacuity: a 100-byte chunk at 400; a section at [430,460) is held as [30,60), a section starting before
    the chunk (at 380) is not held, and neither is one ending behind it -/
example :
    Gen.heldSection false 100 400 { BloomFilterOffset := 430, BloomFilterSize := 30 } = .some 30 60 ∧
    Gen.heldSection false 100 400 { BloomFilterOffset := 380, BloomFilterSize := 30 } = .none ∧
    Gen.heldSection false 100 400 { BloomFilterOffset := 480, BloomFilterSize := 30 } = .none ∧
    (Gen.heldSection false 100 400 { BloomFilterOffset := 380, BloomFilterSize := 30 } ≠ .panic ∧
     Gen.heldSection false 100 400 { BloomFilterOffset := 380, BloomFilterSize := 30 } =
       (match heldSection { BloomFilterOffset := 380, BloomFilterSize := 30 } 400 100 with | none => .none | some (lo, hi) => .some lo hi)) :=
  ⟨by decide, by decide, by decide,
   held_section_generated false 100 400 { BloomFilterOffset := 380, BloomFilterSize := 30 } (by decide) (by decide)
     (by decide) (by decide) (by decide) (by decide) (by decide)⟩

/-- **The chunk `readChunkFrom` reads, as regenerated from the Go text** (its extension loop with continue / break
    and both accumulators): for a region inside int64, a valid non-empty section to start from and any blocks
    after it, the extent read starts at that section, covers it, stays inside the block filter region, and is
    no longer than the target unless the section alone is. -/
theorem chunk_generated_within_region (target rs re : Int) (b : DataBlockMetadata) (following : List DataBlockMetadata)
    (hrs : 0 ≤ rs) (hre : re ≤ maxInt64) (ht0 : 0 ≤ target) (ht : target ≤ maxInt64)
    (hv : validSection b rs re = true) (hs : 0 < b.BloomFilterSize) (hall : ∀ x ∈ following, BlockI64 x) :
    let start := (Gen.readChunkFrom_extent target rs re b following).1
    let stop := (Gen.readChunkFrom_extent target rs re b following).2.1
    rs ≤ start ∧ start = b.BloomFilterOffset ∧ b.BloomFilterOffset + b.BloomFilterSize ≤ stop ∧ stop ≤ re ∧
    (stop - start ≤ target ∨ stop - start = b.BloomFilterSize) := by
  intro start stop
  -- not needed: a section that passes the check lies inside the region, whatever the other fields hold
  have _ := hall; have _ := ht
  have hg := Bridge.chunkFor_generated target rs re b following hrs hre hv hs
  have hw := chunk_within_region target rs re b following ht0 hv hs
  have h1 : start = (chunkFor target rs re b following).1 := congrArg Prod.fst hg
  have h2 : stop = (chunkFor target rs re b following).2 := congrArg Prod.snd hg
  rw [h1, h2]; exact hw

/-- non-vacuity: a valid 10-byte section at 110 in the region [100,200), followed by an empty section, an adjacent
    8-byte one (absorbed: the chunk grows to 128), one behind the start (ends the extension) - target 32 -/
example :
    let fol : List DataBlockMetadata := [{ BloomFilterOffset := 0, BloomFilterSize := 0 }, { BloomFilterOffset := 120, BloomFilterSize := 8 },
      { BloomFilterOffset := 104, BloomFilterSize := 4 }, { BloomFilterOffset := 128, BloomFilterSize := 2 }]
    Gen.readChunkFrom_extent 32 100 200 { BloomFilterOffset := 110, BloomFilterSize := 10 } fol = (110, (128, 2)) ∧
    ((100 : Int) ≤ 110 ∧ (128 : Int) ≤ 200) := by
  intro fol
  have h := chunk_generated_within_region 32 100 200 { BloomFilterOffset := 110, BloomFilterSize := 10 } fol
    (by decide) (by decide) (by decide) (by decide) (by decide) (by decide)
    (by decide)
  have e : Gen.readChunkFrom_extent 32 100 200 { BloomFilterOffset := 110, BloomFilterSize := 10 } fol = (110, (128, 2)) := by decide
  rw [e] at h
  exact ⟨e, h.1, h.2.2.2.1⟩

end BloomVerif.C19

