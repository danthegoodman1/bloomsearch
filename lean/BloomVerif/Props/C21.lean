/-
  C21 — Queries release every resource they acquire (handle-pool part; goroutine exit and the
  MetaStore iterator's return are runtime facts, monitored on the implementation).
-/
import BloomVerif.Lemmas.Cursor
namespace BloomVerif.C21
open BloomVerif.Pool

/-- The pool invariant holds after any sequence of operations that obeys the reader discipline. -/
theorem pool_inv (ops : List Op) :
    ∀ s, Pool.Inv s → (∀ (pre : List Op) (op : Op) (post : List Op), ops = pre ++ op :: post →
        Allowed (pre.foldl (fun st o => (step st o).1) s) op) →
      Pool.Inv (ops.foldl (fun st o => (step st o).1) s) := by
  induction ops with
  | nil => intro s h _; exact h
  | cons op rest ih =>
    intro s h hall
    have h1 : Pool.Inv (step s op).1 := inv_step s op h (hall [] op rest rfl)
    apply ih _ h1
    intro pre o post heq
    have := hall (op :: pre) o post (by rw [heq]; rfl)
    simpa using this

/-- witness helper: the pool state after a sequence of operations from the empty pool -/
private def nv_run (ops : List Op) : St := ops.foldl (fun st o => (step st o).1) {}

theorem nv_inv2 : Pool.Inv (nv_run [.retain 7, .acquire 7]) :=
  inv_step _ _ (inv_step _ _ inv_init_aux trivial) trivial

theorem nv_inv3 : Pool.Inv (nv_run [.retain 7, .acquire 7, .acquire 7]) :=
  inv_step _ _ nv_inv2 trivial

theorem nv_inv4 : Pool.Inv (nv_run [.retain 7, .acquire 7, .acquire 7, .put 7 0]) :=
  inv_step _ _ nv_inv3 (rfl : _ = _)

/-- non-vacuity: the premises of `pool_inv` hold from a pool with one retained file and one lent handle, for a disciplined sequence (open a second handle, put the first back, discard the second, tear down) -/
example : ∃ (s : St) (ops : List Op), s.next = 1 ∧ s.status.lookup 0 = some .lent ∧ ops.length = 4 ∧ Pool.Inv s ∧
    (∀ (pre : List Op) (op : Op) (post : List Op), ops = pre ++ op :: post →
      Allowed (pre.foldl (fun st o => (step st o).1) s) op) := by
  refine ⟨nv_run [.retain 7, .acquire 7], [.acquire 7, .put 7 0, .discard 1, .closeAll], rfl, rfl, rfl, nv_inv2, ?_⟩
  intro pre op post h
  rcases pre with _ | ⟨a, _ | ⟨b, _ | ⟨c, _ | ⟨d, pre⟩⟩⟩⟩ <;>
    simp only [List.cons_append, List.nil_append, List.cons.injEq] at h
  · obtain ⟨rfl, _⟩ := h; trivial
  · obtain ⟨rfl, rfl, _⟩ := h; exact (rfl : _ = _)
  · obtain ⟨rfl, rfl, rfl, _⟩ := h; exact (rfl : _ = _)
  · obtain ⟨rfl, rfl, rfl, rfl, _⟩ := h; trivial
  · obtain ⟨_, _, _, _, h⟩ := h; simp at h

/-- `acquire` lends only a handle that was idle or is new, never one that is lent: no handle has two holders. -/
theorem acquire_exclusive (s : St) (p h : Nat) (hi : Pool.Inv s) (ha : (step s (.acquire p)).2 = some h) :
    (s.status.lookup h = some .idle ∨ (h = s.next ∧ s.status.lookup h = none)) ∧
    (step s (.acquire p)).1.status.lookup h = some .lent := by
  obtain ⟨_, idle_of_mem, lt_next, _⟩ := hi
  have hs := step_sound s (.acquire p)
  rw [ha] at hs
  generalize (step s (.acquire p)).1 = s' at hs ⊢
  cases hs with
  | lend _ e rest _ _ he hidle =>
    exact ⟨.inl (idle_of_mem h (mem_idle_of_find he (by simp [hidle]))), by simp [lookup_setStatus]⟩
  | openNew =>
    exact ⟨.inr ⟨rfl, Option.eq_none_iff_forall_ne_some.2 fun v hl => Nat.lt_irrefl _ (lt_next _ v hl)⟩,
      by simp [lookup_setStatus]⟩

/-- non-vacuity: the premises of `acquire_exclusive` hold when an idle handle is lent again (two handles opened, handle 0 put back, then acquire) -/
example : ∃ (s : St) (p h : Nat), Pool.Inv s ∧ (step s (.acquire p)).2 = some h ∧
    s.status.lookup h = some .idle ∧ s.next = 2 :=
  ⟨nv_run [.retain 7, .acquire 7, .acquire 7, .put 7 0], 7, 0,
    nv_inv4, rfl, rfl, rfl⟩

/-- non-vacuity: the premises of `acquire_exclusive` also hold when a new handle is opened while another is lent (the second disjunct of the conclusion) -/
example : ∃ (s : St) (p h : Nat), Pool.Inv s ∧ (step s (.acquire p)).2 = some h ∧
    h = s.next ∧ s.status.lookup h = none ∧ s.status.lookup 0 = some .lent :=
  ⟨nv_run [.retain 7, .acquire 7], 7, 1, nv_inv2, rfl, rfl, rfl, rfl⟩

/-- No handle is closed (or lent again) while a reader holds it. -/
theorem lent_untouched (s : St) (op : Op) (h : Nat) (hi : Pool.Inv s) (hl : s.status.lookup h = some .lent)
    (hop : op ≠ .discard h ∧ ∀ p, op ≠ .put p h) : (step s op).1.status.lookup h = some .lent := by
  obtain ⟨_, idle_of_mem, lt_next, _⟩ := hi
  -- a lent handle is not idle, was opened before, and is not the one handed back
  exact ((step_sound s op).frame h (fun m => by cases (idle_of_mem h m).symm.trans hl)
    (Nat.ne_of_lt (lt_next _ _ hl)) hop.1 hop.2).trans hl

/-- non-vacuity: the premises of `lent_untouched` hold for two lent handles, where the other reader discards its handle 1 while handle 0 stays lent -/
example : ∃ (s : St) (op : Op) (h : Nat), Pool.Inv s ∧ s.status.lookup h = some .lent ∧
    (op ≠ .discard h ∧ ∀ p, op ≠ .put p h) ∧ op = .discard 1 ∧ s.status.lookup 1 = some .lent :=
  ⟨nv_run [.retain 7, .acquire 7, .acquire 7], .discard 1, 0,
    nv_inv3,
    rfl, ⟨by decide, fun p h => by cases h⟩, rfl, rfl⟩

/-- After teardown, once no handle is lent, every handle id below `next` has been closed exactly once
    or has no status entry. -/
theorem closed_exactly_once (s : St) (hi : Pool.Inv s) (hc : s.closed = true)
    (hl : ∀ h, s.status.lookup h ≠ some .lent) :
    ∀ h, h < s.next → s.status.lookup h = some (.closed 1) ∨ s.status.lookup h = none := by
  obtain ⟨_, _, _, closed_once, mem_of_idle, closed_empty, _⟩ := hi
  intro h _
  cases hs : s.status.lookup h with
  | none => exact Or.inr rfl
  | some v =>
    cases v with
    | lent => exact absurd hs (hl h)
    | idle =>
      have := mem_of_idle h hs
      rw [closed_empty hc] at this
      simp at this
    | closed n =>
      rw [closed_once h n hs]; exact Or.inl rfl

/-- non-vacuity: the premises of `closed_exactly_once` hold after a real teardown (two handles opened, one put back idle, one discarded, then closeAll) -/
example : ∃ s : St, Pool.Inv s ∧ s.closed = true ∧ (∀ h, s.status.lookup h ≠ some .lent) ∧
    s.next = 2 ∧ s.status = [(0, .closed 1), (1, .closed 1)] := by
  refine ⟨nv_run [.retain 7, .acquire 7, .acquire 7, .put 7 0, .discard 1, .closeAll],
    inv_step _ _ (inv_step _ _ nv_inv4 (rfl : _ = _)) trivial,
    rfl, ?_, rfl, rfl⟩
  intro h
  show List.lookup h [(0, HStatus.closed 1), (1, HStatus.closed 1)] ≠ some HStatus.lent
  simp only [List.lookup]
  split
  · simp
  · split <;> simp

end BloomVerif.C21
