/-
  C01 — Queries never miss a stored matching row (no false negatives).
  Quantifies over every JSON tree, tokenizer function, bloom/regex/prefilter tree (nil, empty,
  unknown nodes included), every split of rows into blocks and files, and every sound filter
  construction.
-/
import BloomVerif.Lemmas.Exact
import BloomVerif.Lemmas.Tokenizer
import BloomVerif.Props.C04
import BloomVerif.Props.C18
import BloomVerif.Bridge.Tree
import BloomVerif.Bridge.Guard
namespace BloomVerif.C01

/-- A bloom condition that holds of a row holds on the row's own entry sets; for FIELD_TOKEN: direct
    (path, token) equality implies membership of the joined `path::token` key. -/
theorem fieldToken_direct_implies_joined (tok : Str → List Str) (row : J) (c : BloomCond)
    (h : matchBloomCond tok (emissions row) c = true) : entryCond (rowEntries tok row) c = true :=
  bloomCond_entries tok (emissions row) c h

/-- witness tokenizer: split on blanks (the reference splitter with a one-character separator set) -/
private def nv_tok : Str → List Str := fieldsOn (fun c => c == ' ')
/-- witness row `{"a":{"b":"hello world","n":42},"c.d":[true,null]}` -/
private def nv_json : J :=
  .obj [("a".toList, .obj [("b".toList, .str "hello world".toList), ("n".toList, .num "42".toList)]),
        ("c.d".toList, .arr [.bool true, .null])]

theorem nv_bloom_matches :
    matchBloomCond nv_tok (emissions nv_json) { Kind := "FIELD_TOKEN", Field := "a.b".toList, Token := "world".toList } = true := by
  decide

/-- non-vacuity: a FIELD_TOKEN condition on a nested path holds of a two-level row (second token of the leaf) -/
example :
    matchBloomCond nv_tok (emissions nv_json) { Kind := "FIELD_TOKEN", Field := "a.b".toList, Token := "world".toList } = true ∧
    entryCond (rowEntries nv_tok nv_json) { Kind := "FIELD_TOKEN", Field := "a.b".toList, Token := "world".toList } = true :=
  ⟨nv_bloom_matches, fieldToken_direct_implies_joined nv_tok nv_json _ nv_bloom_matches⟩

/-- A regex tree that is true of a row implies its Field guard on the row's own entries. -/
theorem guard_sound (tok : Str → List Str) (re : Str → Str → Bool) (reOK : Str → Bool) (row : J)
    (rx : RegexExpr) (hv : rxValid reOK rx = true)
    (h : matchRegex re (emissions row) (some rx) = true) :
    Expr.evalOpt (entryCond (rowEntries tok row)) (guardOf rx) = true :=
  have _ := hv  -- `compileRx` and `guardOf` drop the same nodes whether or not the tree is valid
  guardOf_sound tok re row rx h

/-- witness regex oracle: "pattern is a prefix of the text" -/
private def nv_re : Str → Str → Bool := fun p t => p.isPrefixOf t
/-- witness regex tree: AND [ a.b ~ "hel", OR [ zz ~ "q", a ~ "4" ], CONDITION nil ] -/
private def nv_rx : RegexExpr :=
  .mk "AND" none
    [.mk "CONDITION" (some { Field := "a.b".toList, Pattern := "hel".toList }) [],
     .mk "OR" none [.mk "CONDITION" (some { Field := "zz".toList, Pattern := "q".toList }) [],
                    .mk "CONDITION" (some { Field := "a".toList, Pattern := "4".toList }) []],
     .mk "CONDITION" none []]

theorem nv_rx_valid : rxValid (fun p => !p.isEmpty) nv_rx = true := by decide
theorem nv_rx_matches : matchRegex nv_re (emissions nv_json) (some nv_rx) = true := by decide

/-- non-vacuity: a three-level regex tree (AND / OR / nil condition) that compiles and is true of the nested row -/
example :
    rxValid (fun p => !p.isEmpty) nv_rx = true ∧ matchRegex nv_re (emissions nv_json) (some nv_rx) = true ∧
    Expr.evalOpt (entryCond (rowEntries nv_tok nv_json)) (guardOf nv_rx) = true :=
  ⟨nv_rx_valid, nv_rx_matches,
    guard_sound nv_tok nv_re (fun p => !p.isEmpty) nv_json nv_rx nv_rx_valid nv_rx_matches⟩

/-- The fast tokenizer path is the reference tokenizer, on the regenerated Unicode tables. -/
theorem fast_tokenizer_default (s : Str) : defaultTokFast s = defaultTok s :=
  fast_tokenizer_eq isSpaceC lowerC isSpaceC_lowerC s

/-- A row that matches the query satisfies the prune query on its own entries. -/
theorem match_implies_entries (s : Sem) (reOK : Str → Bool) (q : Query) (r : Row)
    (hv : q.Valid reOK) (h : rowMatches s q r = true) :
    Expr.evalOpt (entryCond (rowEntries s.tok r.json)) q.prune = true :=
  have _ := hv
  match_entries s q r h

private def nv_sem : Sem := { tok := nv_tok, re := nv_re }
/-- witness prefilter view of a row: partition `pid`, one indexed value under key "n" -/
private def nv_pre (pid : String) (v : NumVal) : RowPre :=
  { pid := pid, vals := fun f => if f = "n" then some v else none }
private def nv_r1 : Row := { json := nv_json, pre := nv_pre "p1" (.int 42) }
private def nv_r2 : Row :=
  { json := .obj [("a".toList, .obj [("b".toList, .str "bye".toList)])], pre := nv_pre "p1" (.int 7) }
private def nv_r3 : Row :=
  { json := .obj [("a".toList, .str "hello".toList)], pre := nv_pre "p2" (.int 45) }
/-- witness query: partition = p1 AND n BETWEEN 40 AND 50; token "world" under a.b; the regex tree above -/
private def nv_q : Query :=
  { pre := some (.mk "AND" none
      [.mk "CONDITION" (some { ConditionType := "PARTITION", PartitionCondition := some ({ Operator := "EQ", Value := "p1" } : StringCondition) }) [],
       .mk "CONDITION" (some { ConditionType := "MINMAX", MinMaxFieldName := "n", MinMaxCondition := some ({ Operator := "BETWEEN", Min := 40, Max := 50 } : NumericCondition) }) []]),
    bloom := some (.mk "CONDITION" (some { Kind := "FIELD_TOKEN", Field := "a.b".toList, Token := "world".toList }) []),
    regex := some nv_rx }

theorem nv_q_valid : nv_q.Valid (fun p => !p.isEmpty) := by
  intro e he; cases he; exact nv_rx_valid
theorem nv_r1_matches : rowMatches nv_sem nv_q nv_r1 = true := by
  -- the one-node bloom tree is unfolded by rewriting; left to the unifier, both evaluations are run again
  simp only [rowMatches, matchRow, nv_q, Expr.evalOpt, Expr.eval, ↓reduceIte, Bool.and_eq_true]
  exact ⟨nv_bloom_matches, nv_rx_matches⟩
theorem nv_prune_entries : Expr.evalOpt (entryCond (rowEntries nv_tok nv_json)) nv_q.prune = true :=
  match_implies_entries nv_sem _ nv_q nv_r1 nv_q_valid nv_r1_matches

/-- non-vacuity: a valid bloom + regex query matched by the nested row -/
example :
    nv_q.Valid (fun p => !p.isEmpty) ∧ rowMatches nv_sem nv_q nv_r1 = true ∧
    Expr.evalOpt (entryCond (rowEntries nv_sem.tok nv_r1.json)) nv_q.prune = true :=
  ⟨nv_q_valid, nv_r1_matches, nv_prune_entries⟩

/-- Filters that contain the entries dominate exact-set evaluation (absent filter ⇒ true). -/
theorem filters_ge_exact (f : Filt) (en : Entries) (p : Option BloomExpr) (hc : FiltCovers f en)
    (h : Expr.evalOpt (entryCond en) p = true) : evalFilt f p = true :=
  filt_ge_entries f en p hc h

/-- witness filter builder: exact membership (a bloom filter without false positives) -/
private def nv_build : List Str → (Str → Bool) := fun l x => l.contains x
theorem nv_covers :
    FiltCovers (buildFilt nv_build (rowEntries nv_tok nv_json)) (rowEntries nv_tok nv_json) :=
  buildFilt_covers_self nv_build soundBuild_contains _

/-- non-vacuity: the premises of `filters_ge_exact` hold of the witness row's entries and the filters built from them -/
example :
    FiltCovers (buildFilt nv_build (rowEntries nv_tok nv_json)) (rowEntries nv_tok nv_json) ∧
    Expr.evalOpt (entryCond (rowEntries nv_tok nv_json)) nv_q.prune = true ∧
    evalFilt (buildFilt nv_build (rowEntries nv_tok nv_json)) nv_q.prune = true :=
  ⟨nv_covers, nv_prune_entries, filters_ge_exact _ _ _ nv_covers nv_prune_entries⟩

/-- The same for the filter-test tree walk re-translated from `evaluateBloomExpression` (query_exec.go) on
    every run: filters that contain a row's entries are never ruled out by the regenerated evaluator. -/
theorem filters_ge_exact_generated (f : Filt) (en : Entries) (p : Option BloomExpr) (hc : FiltCovers f en)
    (h : Expr.evalOpt (entryCond en) p = true) : Gen.evaluateBloomExpressionPtr (filtCond f) p = true := by
  rw [Bridge.evalFilt_generated]; exact filters_ge_exact f en p hc h

/-- non-vacuity: the same covering filters and prune query meet the premises of `filters_ge_exact_generated` -/
example : Gen.evaluateBloomExpressionPtr (filtCond (buildFilt nv_build (rowEntries nv_tok nv_json))) nv_q.prune = true :=
  filters_ge_exact_generated _ (rowEntries nv_tok nv_json) _ nv_covers nv_prune_entries

/-- `guard_sound` for the guard re-translated from `regexExpressionToBloomFieldExpression` (query.go) on every
    run, evaluated by the re-translated filter-test tree walk: a row whose regex tree holds is never ruled
    out by filters containing the row's entries. -/
theorem guard_sound_generated (tok : Str → List Str) (re : Str → Str → Bool) (reOK : Str → Bool) (row : J)
    (rx : RegexExpr) (hv : rxValid reOK rx = true)
    (h : matchRegex re (emissions row) (some rx) = true) (f : Filt) (hc : FiltCovers f (rowEntries tok row)) :
    Gen.evaluateBloomExpressionPtr (filtCond f) (Gen.regexExpressionToBloomFieldExpressionPtr (some rx)) = true := by
  rw [Bridge.guardPtr_eq]
  exact filters_ge_exact_generated f (rowEntries tok row) _ hc (guard_sound tok re reOK row rx hv h)

/-- non-vacuity: the three-level regex tree, the nested row and filters built from the row's own entries meet the premises of `guard_sound_generated` -/
example : Gen.evaluateBloomExpressionPtr (filtCond (buildFilt nv_build (rowEntries nv_tok nv_json)))
    (Gen.regexExpressionToBloomFieldExpressionPtr (some nv_rx)) = true :=
  guard_sound_generated nv_tok nv_re (fun p => !p.isEmpty) nv_json nv_rx nv_rx_valid nv_rx_matches _ nv_covers

/-- **C01**: whatever produced the files, if they are index-covered (`FileWF`, established by
    flush and merge: C18), every stored row that matches the bloom and regex expressions under the
    documented semantics and whose own partition ID / indexed values satisfy the prefilter is
    returned. -/
theorem C01_no_false_negatives (s : Sem) (reOK : Str → Bool) (files : List FileM) (q : Query)
    (f : FileM) (b : Block) (r : Row)
    (hwf : ∀ f ∈ files, FileWF s f) (hf : f ∈ files) (hb : b ∈ f.blocks) (hr : r ∈ b.rows)
    (hv : q.Valid reOK) (hpre : Expr.ForallOpt PreCond.WF q.pre)
    (hm : rowMatches s q r = true) (hp : rowSatPre r.pre q.pre = true) :
    r ∈ query s files q :=
  have _ := hv
  (mem_query s files q hwf r).2
    ⟨f, hf, b, hb, C04.C04_tree b.md r.pre q.pre ((hwf f hf b hb).1 r hr).1 hpre hp, hr, hm⟩

/-- witness file: a flush of two partition buffers (two rows in p1, one in p2), minmax key "n" -/
private def nv_parts : List (String × List Row) := [("p1", [nv_r1, nv_r2]), ("p2", [nv_r3])]
private def nv_file : FileM := flushFile nv_sem nv_build ["n"] nv_parts

/-- non-vacuity: the premises of `C01_no_false_negatives` hold for a two-file flushed store, a three-part query and the nested row of a two-row block; it is returned -/
example :
    let files := [flushFile nv_sem nv_build ["n"] [("p2", [nv_r3])], nv_file]
    let b := mkBlock nv_sem nv_build ["n"] "p1" [nv_r1, nv_r2]
    (∀ f ∈ files, FileWF nv_sem f) ∧ nv_file ∈ files ∧ b ∈ nv_file.blocks ∧ nv_r1 ∈ b.rows ∧
    nv_q.Valid (fun p => !p.isEmpty) ∧ Expr.ForallOpt PreCond.WF nv_q.pre ∧
    rowMatches nv_sem nv_q nv_r1 = true ∧ rowSatPre nv_r1.pre nv_q.pre = true ∧
    nv_r1 ∈ query nv_sem files nv_q := by
  intro files b
  -- the store is two flushes of rows filed under their own partition, with indexed key "n": C18
  have hflush := C18.flush_WF nv_sem nv_build soundBuild_contains ["n"]
  have h3 : ∀ p ∈ [("p2", [nv_r3])], ∀ r ∈ p.2, ∀ f w, r.pre.vals f = some w → f ∈ ["n"] :=
    List.forall_mem_singleton.2 (List.forall_mem_singleton.2 (key_of_ite_eq_some _ _))
  have hwf : ∀ f ∈ files, FileWF nv_sem f :=
    List.forall_mem_cons.2 ⟨hflush _ (by decide) h3, List.forall_mem_singleton.2 (hflush nv_parts (by decide)
      (List.forall_mem_cons.2
        ⟨List.forall_mem_cons.2 ⟨key_of_ite_eq_some _ _, List.forall_mem_singleton.2 (key_of_ite_eq_some _ _)⟩, h3⟩))⟩
  have hf : nv_file ∈ files := .tail _ (.head _)
  have hb : b ∈ nv_file.blocks := .head _
  have hr : nv_r1 ∈ b.rows := .head _
  have hpre : Expr.ForallOpt PreCond.WF nv_q.pre := by
    simp [nv_q, Expr.ForallOpt, Expr.Forall, Expr.ForallL, PreCond.WF, NumericCondition.WF]
    decide
  have hp : rowSatPre nv_r1.pre nv_q.pre = true := by decide
  exact ⟨hwf, hf, hb, hr, nv_q_valid, hpre, nv_r1_matches, hp,
    C01_no_false_negatives nv_sem _ files nv_q nv_file b nv_r1 hwf hf hb hr nv_q_valid hpre nv_r1_matches hp⟩

end BloomVerif.C01
