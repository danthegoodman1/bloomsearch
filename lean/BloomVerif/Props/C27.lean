/-
  C27 — The engine is silent by default.
  The quantifier over "all operation histories" is discharged by a finite one: whatever history runs,
  the only places the package's own code can reach standard output / standard error are the call
  sites listed in `Gen.outputSinks` (regenerated from /repo's non-test sources on every run: fmt.Print*,
  print/println, log.*, package-level slog.*, os.Stdout/os.Stderr) and the configured logger, which
  `NewBloomSearchEngine` replaces by the discard handler when nil (`Gen.nilLoggerIsDiscard`).
  Third-party code is observed at run time (fd 1/2 capture), not modelled.
-/
import BloomVerif.Generated.Sinks
namespace BloomVerif.C27

/-- What one engine operation writes to stdout/stderr: the output of the sink call sites it reaches
    plus, unless the logger discards, its log records. -/
def opOutput (hit : List (String × String)) (loggerDiscards : Bool) (logged : List String) : List String :=
  hit.map (·.2) ++ (if loggerDiscards then [] else logged)

/-- The regenerated table is empty and a nil logger discards (kernel-evaluated on the table). -/
theorem no_sinks : Gen.outputSinks = [] ∧ Gen.nilLoggerIsDiscard = true := by decide

theorem silent_of_no_sinks {sinks : List (String × String)} {discards : Bool} (hs : sinks = []) (hd : discards = true)
    (history : List (List (String × String) × List String)) (h : ∀ op ∈ history, ∀ x ∈ op.1, x ∈ sinks) :
    history.flatMap (fun op => opOutput op.1 discards op.2) = [] := by
  subst hs hd
  refine List.flatMap_eq_nil_iff.mpr fun op hop => ?_
  have h1 : op.1 = [] := List.eq_nil_iff_forall_not_mem.mpr fun x hx => List.not_mem_nil (h op hop x hx)
  simp [opOutput, h1]

/-- **C27**: for every history (list of operations), each reaching any subset of the package's sink
    call sites and logging anything, nothing is written when no logger is configured. -/
theorem silent (history : List (List (String × String) × List String))
    (h : ∀ op ∈ history, ∀ x ∈ op.1, x ∈ Gen.outputSinks) :
    history.flatMap (fun op => opOutput op.1 Gen.nilLoggerIsDiscard op.2) = [] :=
  silent_of_no_sinks no_sinks.1 no_sinks.2 history h

/-- non-vacuity: the premise of `silent` holds for a three-operation history whose operations log records but reach no sink call site; the theorem applies. With the regenerated table empty only such histories satisfy the premise (next example). -/
example : (∀ op ∈ [(([] : List (String × String)), ["flushed 2 rows", "merge started"]), ([], []), ([], ["query done"])],
      ∀ x ∈ op.1, x ∈ Gen.outputSinks) ∧
    ([(([] : List (String × String)), ["flushed 2 rows", "merge started"]), ([], []), ([], ["query done"])].flatMap
      (fun op => opOutput op.1 Gen.nilLoggerIsDiscard op.2) = []) := by
  have h : ∀ op ∈ [(([] : List (String × String)), ["flushed 2 rows", "merge started"]), ([], []), ([], ["query done"])],
      ∀ x ∈ op.1, x ∈ Gen.outputSinks := by decide
  exact ⟨h, silent _ h⟩

/-- non-vacuity (degeneracy made explicit): with the current (empty) sink table the premise of `silent` forces every operation's reached-sink list to be empty, so the theorem's content is carried by `no_sinks` (the table is empty, a nil logger discards) and by the logged records being dropped. -/
example (history : List (List (String × String) × List String))
    (h : ∀ op ∈ history, ∀ x ∈ op.1, x ∈ Gen.outputSinks) : ∀ op ∈ history, op.1 = [] := by
  intro op hop
  exact List.eq_nil_iff_forall_not_mem.mpr fun x hx => List.not_mem_nil (no_sinks.1 ▸ h op hop x hx)

end BloomVerif.C27
