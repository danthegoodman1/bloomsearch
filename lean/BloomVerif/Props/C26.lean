/-
  C26 — Bloom filters meet the configured false-positive rate at any volume.
  The rate itself is a statement about hashing statistics (bits-and-blooms), not about this code
  path; what the engine contributes is the sizing discipline: every filter is built from exactly the
  distinct entries of the rows it covers (so its capacity argument, `max |S| 1`, is the measured
  count). These theorems state that for the model; the correspondence check compares (m, k) of every
  written filter with EstimateParameters(max |S| 1, p), |S| computed with the Lean entries.
-/
import BloomVerif.Model.Content
namespace BloomVerif.C26

/-- How the model builds a flushed block's filters (`rfl`; with the next two it records the
    construction the correspondence check compares written filters against, not a property of
    `build`). -/
theorem block_filters_from_measured (s : Sem) (build : List Str → (Str → Bool)) (keys : List String)
    (pid : String) (rows : List Row) :
    (mkBlock s build keys pid rows).filt =
      buildFilt build (unionEntries (rows.map (fun r => rowEntries s.tok r.json))) := rfl

/-- … a flushed file's filters: from the entries of all rows of all its blocks. -/
theorem file_filters_from_measured (s : Sem) (build : List Str → (Str → Bool)) (keys : List String)
    (parts : List (String × List Row)) :
    (flushFile s build keys parts).filt =
      buildFilt build (unionEntries (parts.flatMap (fun p => p.2.map (fun r => rowEntries s.tok r.json)))) := rfl

/-- … a merge output file's filters: from every row again, copied blocks included. -/
theorem merge_file_filters_from_measured (s : Sem) (build : List Str → (Str → Bool)) (groups : List (List Block)) :
    (mergeFile s build groups).filt =
      buildFilt build (unionEntries ((groups.flatMap id).flatMap (fun b => b.rows.map (fun r => rowEntries s.tok r.json)))) := rfl

/-- The token list a filter is built from contains every token of every covered row and nothing
    else (so its distinct count is the measured count); `fields` and `fieldTokens` are built by the
    same `flatMap`. -/
theorem union_exact (ens : List Entries) (x : Str) :
    x ∈ (unionEntries ens).tokens ↔ ∃ e ∈ ens, x ∈ e.tokens := by
  simp [unionEntries]

end BloomVerif.C26
