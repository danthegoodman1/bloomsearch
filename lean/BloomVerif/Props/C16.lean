/-
  C16 — FileSystemDataStore behaves like its specification. PARTIAL: the refinement is proved for
  callers that do not tombstone a pointer while its writer is open and call Abort only on an open or a
  published writer (`Allowed`); at the first excluded point the unchanged code publishes another writer's partial bytes (witness proved below,
  replayed on the implementation by the check, recorded as a known finding).
-/
import BloomVerif.Lemmas.FSStore
namespace BloomVerif.C16
open BloomVerif.FSStore

/-- No CreateFile overwrites another file: the name it settles on was free (both
    the final name and the temp name), and every existing path keeps its inode and its bytes —
    whatever collisions the draw sequence produces. -/
theorem create_never_clobbers (fs fs' : FS) (draws : List String) (b : String) (i : Nat)
    (h : createLoop fs draws = some (fs', b, i)) :
    fs.lookup (dat b) = none ∧ fs.lookup (tmp b) = none ∧
    (∀ p j, fs.lookup p = some j → fs'.lookup p = some j ∧ fs'.data j = fs.data j) := by
  obtain ⟨hdatFree, htmpFree, _, _, _, _, hframe, hbytes, _⟩ := createLoop_spec h
  refine ⟨hdatFree, htmpFree, fun p j hp => ⟨?_, hbytes j⟩⟩
  -- a path that was bound is neither of the two names, which were free
  rw [hframe p (fun e => by rw [e, hdatFree] at hp; cases hp) (fun e => by rw [e, htmpFree] at hp; cases hp), hp]

/-- witness directory: a published file `a.dat` and an orphaned `b.tmp` left by a crashed writer -/
private def nv_fs : FS := { names := [("a.dat", 0), ("b.tmp", 1)], inodes := [(0, [1]), (1, [2])], next := 2 }

/-- non-vacuity of `create_never_clobbers`: the draws collide with a published file, then with an orphaned temp
    file, and settle on the third name -/
example : ∃ fs' i, createLoop nv_fs ["a", "b", "c"] = some (fs', "c", i) ∧
    fs'.lookup "a.dat" = some 0 ∧ fs'.lookup "b.tmp" = some 1 ∧ fs'.lookup "b.dat" = none :=
  have h : createLoop nv_fs ["a", "b", "c"] =
      some (⟨[("a.dat", 0), ("b.tmp", 1), ("c.dat", 3), ("c.tmp", 4)],
             [(0, [1]), (1, [2]), (2, []), (3, []), (4, [])], 5⟩, "c", 4) := by decide
  ⟨_, _, h, ((create_never_clobbers _ _ _ _ _ h).2.2 "a.dat" 0 (by decide)).1,
    ((create_never_clobbers _ _ _ _ _ h).2.2 "b.tmp" 1 (by decide)).1, by decide⟩

/-- TombstoneFile unbinds both names of its pointer and leaves the binding of every other path. -/
theorem tombstone_removes_all (s : St) (b : String) :
    (step s (.tombstone b)).1.fs.lookup (dat b) = none ∧ (step s (.tombstone b)).1.fs.lookup (tmp b) = none ∧
    (∀ p, p ≠ dat b → p ≠ tmp b → (step s (.tombstone b)).1.fs.lookup p = s.fs.lookup p) :=
  lookup_remove_ptr s.fs b

/-- **Refinement step** (the statement DESIGN.md plans under the name `C16_scan_exact`, here for
    disciplined callers only): every allowed operation keeps the directory an
    implementation of the specification — a pointer's final name holds exactly the bytes its writer
    wrote once Close succeeded, an unfinished write is an empty reservation plus an invisible temp
    file, an aborted or tombstoned pointer leaves nothing. -/
theorem C16_refinement_partial (s : St) (spec : String → PStatus) (op : Op)
    (hbase : ∀ b1 b2 : String, (dat b1 = dat b2 → b1 = b2) ∧ (tmp b1 = tmp b2 → b1 = b2) ∧ dat b1 ≠ tmp b2)
    (hr : Refines s spec) (hw : FSWF s.fs) (hwr : ∀ w ∈ s.writers, w.ino < s.fs.next) (ha : Allowed s op) :
    Refines (step s op).1 (specStep spec s op (step s op).2) ∧ FSWF (step s op).1.fs ∧
    (∀ w ∈ (step s op).1.writers, w.ino < (step s op).1.fs.next) := by
  -- `hbase` is `names_distinct`; the steps use the facts behind it directly
  have _ := hbase
  have h := Good.step ⟨hr, hw, hwr⟩ ha
  exact ⟨h.refines, h.wf, h.ino_lt⟩

/-- The side condition of `C16_refinement_partial` is a fact about string append: `base ↦ base.dat` and
    `base ↦ base.tmp` are injective and their images are disjoint. -/
theorem names_distinct (b1 b2 : String) :
    (dat b1 = dat b2 → b1 = b2) ∧ (tmp b1 = tmp b2 → b1 = b2) ∧ dat b1 ≠ tmp b2 :=
  ⟨dat_inj, tmp_inj, dat_ne_tmp b1 b2⟩

/-- The refinement step with that side condition discharged. -/
theorem C16_refinement_step_partial (s : St) (spec : String → PStatus) (op : Op)
    (hr : Refines s spec) (hw : FSWF s.fs) (hwr : ∀ w ∈ s.writers, w.ino < s.fs.next) (ha : Allowed s op) :
    Refines (step s op).1 (specStep spec s op (step s op).2) ∧ FSWF (step s op).1.fs ∧
    (∀ w ∈ (step s op).1.writers, w.ino < (step s op).1.fs.next) :=
  C16_refinement_partial s spec op names_distinct hr hw hwr ha

theorem refinement_base : Refines {} (fun _ => .gone) ∧ FSWF ({} : St).fs := by
  refine ⟨⟨fun _ => ⟨rfl, rfl⟩, ?_, ?_, ?_⟩, FSWF_empty⟩
  · intro w hw; cases hw
  · intro w hw; cases hw
  · intro k1 k2 w1 w2 h1; simp at h1

/-- The specification run alongside the implementation over a call sequence. -/
def runSpec : (String → PStatus) → St → List Op → (String → PStatus) × St
  | spec, s, [] => (spec, s)
  | spec, s, op :: ops => runSpec (specStep spec s op (step s op).2) (step s op).1 ops

/-- Every call of the sequence is allowed in the state it is made in (the discipline of the partial
    statement: tombstone only finished pointers; Abort only an open or a published writer). -/
def AllowedAll : St → List Op → Prop
  | _, [] => True
  | s, op :: ops => Allowed s op ∧ AllowedAll (step s op).1 ops

theorem good_runSpec : ∀ (ops : List Op) {s : St} {spec : String → PStatus}, Good s spec → AllowedAll s ops →
    Good (runSpec spec s ops).2 (runSpec spec s ops).1
  | [], _, _, hg, _ => hg
  | _ :: ops, _, _, hg, ha => good_runSpec ops (hg.step ha.1) ha.2

theorem runSpec_snd : ∀ (ops : List Op) (spec : String → PStatus) (s : St), (runSpec spec s ops).2 = (runOps s ops).1
  | [], _, _ => rfl
  | _ :: ops, _, _ => runSpec_snd ops _ _

theorem good_init : Good {} (fun _ => .gone) :=
  ⟨refinement_base.1, refinement_base.2, fun _ hw => nomatch hw⟩

/-- witness history: one pointer written and published, a second one (drawn after a name collision) still being written -/
private def nv_ops : List Op := [.create ["x"], .write 0 [1, 1], .create ["x", "y"], .write 1 [9], .close 0]
private def nv_s : St := (runOps {} nv_ops).1

/-- non-vacuity of `C16_refinement_partial`: its premises hold jointly of the state reached by five operations
    (by `good_runSpec` from `refinement_base`), where tombstoning the published pointer is `Allowed` -/
example : ∃ (s : St) (spec : String → PStatus) (op : Op),
    (∀ b1 b2 : String, (dat b1 = dat b2 → b1 = b2) ∧ (tmp b1 = tmp b2 → b1 = b2) ∧ dat b1 ≠ tmp b2) ∧
    Refines s spec ∧ FSWF s.fs ∧ (∀ w ∈ s.writers, w.ino < s.fs.next) ∧ Allowed s op ∧
    s = nv_s ∧ s.writers.length = 2 ∧ spec "x" = .published [1, 1] ∧ spec "y" = .writing [9] ∧
    op = .tombstone "x" ∧ Refines (step s op).1 (specStep spec s op (step s op).2) := by
  have hg : Good nv_s _ :=
    runSpec_snd nv_ops _ _ ▸ good_runSpec nv_ops good_init ⟨trivial, trivial, trivial, trivial, trivial, trivial⟩
  have ha : Allowed nv_s (.tombstone "x") := by
    show ∀ w ∈ nv_s.writers, w.base = "x" → w.closed = true
    decide
  exact ⟨_, _, .tombstone "x", names_distinct, hg.refines, hg.wf, hg.ino_lt, ha, rfl, by decide, by decide, by decide, rfl,
    (hg.step ha).refines⟩

/-- non-vacuity: in the same state, aborting the still-open writer is `Allowed` too (the guard of `.abort`) -/
example : Allowed nv_s (.abort 1) := by
  intro w hw
  have e : nv_s.writers[1]? = some ⟨"y", 3, false, false⟩ := by decide
  rw [e] at hw; cases hw; exact Or.inl rfl

/-- **C16 over whole call sequences** (partial by the discipline only): after ANY allowed sequence of
    CreateFile (any draw scripts), Write, Close, Abort, TombstoneFile and OpenFile calls from the empty
    directory, the directory implements the specification state computed alongside. -/
theorem C16_refinement_history_partial (ops : List Op) (h : AllowedAll {} ops) :
    Refines (runSpec (fun _ => .gone) {} ops).2 (runSpec (fun _ => .gone) {} ops).1 :=
  (good_runSpec ops good_init h).refines

/-- non-vacuity: a disciplined sequence with a publish, a tombstone of the finished pointer and a reuse of
    its name by a new writer -/
example : AllowedAll {} [.create ["x"], .write 0 [1, 1], .close 0, .tombstone "x", .create ["x"], .write 1 [9], .close 1, .open_ "x"] := by
  refine ⟨trivial, trivial, trivial, ?_, trivial, trivial, trivial, trivial, trivial⟩
  show ∀ w : Writer, w ∈ _ → w.base = "x" → w.closed = true
  decide

/-- Without the discipline the refinement fails: tombstone a pointer while its writer is open, let
    CreateFile draw the name again, then Close the first writer. It reports success, and the pointer
    reads as the second writer's partial bytes. -/
theorem C16_counterexample :
    let ops : List Op := [.create ["x"], .write 0 [1, 1], .tombstone "x", .create ["x"], .write 1 [9], .close 0, .open_ "x"]
    (runOps {} ops).2 = [.created "x", .ok, .ok, .created "x", .ok, .ok, .data [9]] := by
  decide

end BloomVerif.C16
