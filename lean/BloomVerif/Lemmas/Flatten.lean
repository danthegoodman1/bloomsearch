/- `And(...)` / `Or(...)` splice in children of their own type that carry no condition (`flatten`); the
   constructors still evaluate as plain conjunction / disjunction of their arguments. -/
import BloomVerif.Model.Match
namespace BloomVerif

/-- `F` is the fold by which nodes of type `ty` evaluate their children: `List.all` for AND, `List.any` for OR. -/
theorem flatten_fold {C : Type} (ty : String) (q : Expr C → Bool) (F : List (Expr C) → (Expr C → Bool) → Bool)
    (hflat : ∀ (l : List (Expr C)) (f : Expr C → List (Expr C)), F (l.flatMap f) q = F l (fun e => F (f e) q))
    (hone : ∀ e, F [e] q = q e) (hnode : ∀ cond ch, q (.mk ty cond ch) = F ch q) (es : List (Expr C)) :
    F (flatten ty es) q = F es q := by
  rw [flatten, hflat]
  congr 1
  funext ⟨ty', cond, ch⟩
  show F (if ty' = ty ∧ cond.isNone = true then ch else [Expr.mk ty' cond ch]) q = _
  split
  · next h => rw [h.1, hnode]
  · exact hone _

theorem Expr.eval_mkAnd {C : Type} (leaf : C → Bool) (es : List (Expr C)) :
    Expr.eval leaf (mkAnd es) = es.all (Expr.eval leaf) := by
  rw [mkAnd, Expr.eval_and]
  exact flatten_fold "AND" _ List.all (fun _ _ => List.all_flatMap) (fun _ => by simp) (Expr.eval_and leaf) es

end BloomVerif
