/- How exact comparisons of a numeric value transfer to its int64 range (for C04), and that widening
   a block's range never turns a kept block into a pruned one (`evalMinMax_widen`). -/
import BloomVerif.Model.PreTree
namespace BloomVerif

theorem floor_le_ceil (q : Rat) : q.floor ≤ q.ceil :=
  Rat.intCast_le_intCast.mp (Rat.le_trans (Rat.floor_le q) Rat.le_ceil)

theorem toRange_le (v : NumVal) : (toRange v).1 ≤ (toRange v).2 := by
  cases v with
  | rat q => exact clamp_mono (floor_le_ceil q)
  | _ => exact Int.le_refl _

theorem toRange_inI64 (v : NumVal) : InI64 (toRange v).1 ∧ InI64 (toRange v).2 := by
  cases v with
  | int i => exact ⟨clamp_inI64 i, clamp_inI64 i⟩
  | rat q => exact ⟨clamp_inI64 _, clamp_inI64 _⟩
  | posInf => decide
  | negInf => decide

theorem gt_transfer (v : NumVal) (k : Int) (h : v.gt k) :
    (toRange v).2 > k ∨ (toRange v).2 = maxInt64 := by
  cases v with
  | int i => exact lt_clamp_or h
  | rat q => exact lt_clamp_or (Rat.lt_ceil_iff.mpr h)
  | posInf => exact .inr rfl
  | negInf => exact h.elim

theorem lt_transfer (v : NumVal) (k : Int) (h : v.lt k) :
    (toRange v).1 < k ∨ (toRange v).1 = minInt64 := by
  cases v with
  | int i => exact clamp_lt_or h
  | rat q => exact clamp_lt_or (Rat.floor_lt_iff.mpr h)
  | posInf => exact h.elim
  | negInf => exact .inr rfl

theorem not_lt_transfer (v : NumVal) (k : Int) (hk : InI64 k) (h : ¬ v.lt k) :
    (toRange v).2 ≥ k := by
  cases v with
  | int i => exact le_clamp hk.2 (Int.not_lt.mp h)
  | rat q => exact le_clamp hk.2 (Rat.intCast_le_intCast.mp (Rat.le_trans (Rat.not_lt.mp h) Rat.le_ceil))
  | posInf => exact hk.2
  | negInf => exact absurd trivial h

theorem not_gt_transfer (v : NumVal) (k : Int) (hk : InI64 k) (h : ¬ v.gt k) :
    (toRange v).1 ≤ k := by
  cases v with
  | int i => exact clamp_le hk.1 (Int.not_lt.mp h)
  | rat q => exact clamp_le hk.1 (Rat.intCast_le_intCast.mp (Rat.le_trans (Rat.floor_le q) (Rat.not_lt.mp h)))
  | posInf => exact absurd trivial h
  | negInf => exact hk.1

/-- Trichotomy, through which `eq`, `ne` and `isIn` are read as `between` and `notBetween` at a point. -/
theorem NumVal.eq_iff (v : NumVal) (k : Int) : v.eq k ↔ ¬ v.lt k ∧ ¬ v.gt k := by
  cases v with
  | int i => simp only [NumVal.eq, NumVal.lt, NumVal.gt]; omega
  | rat q => exact ⟨fun h => h ▸ ⟨Rat.lt_irrefl, Rat.lt_irrefl⟩, fun h => Rat.le_antisymm (Rat.not_lt.1 h.2) (Rat.not_lt.1 h.1)⟩
  | posInf => simp [NumVal.eq, NumVal.gt]
  | negInf => simp [NumVal.eq, NumVal.lt]

/-- On the tightest range, the int64 range of the value itself, the minmax leaf is the transfer
    lemmas operator by operator. -/
theorem evalMinMax_toRange (c : NumericCondition) (v : NumVal) (hc : c.WF) (hsat : satNum c v) :
    evalMinMax ⟨(toRange v).1, (toRange v).2⟩ c = true := by
  obtain ⟨hV, hMin, hMax, hVs⟩ := hc
  unfold satNum at hsat
  unfold evalMinMax
  cases hop : parseOp c.Operator with
  | none => simp [hop] at hsat
  | some op =>
    simp only [hop, NumVal.eq_iff] at hsat ⊢
    cases op <;> simp only [Bool.and_eq_true, Bool.or_eq_true, decide_eq_true_eq, List.any_eq_true]
    case eq => exact ⟨not_gt_transfer v _ hV hsat.2, not_lt_transfer v _ hV hsat.1⟩
    case ne =>
      by_cases h : v.lt c.Value
      · exact (lt_transfer v _ h).elim (fun a => .inl (.inl (.inl (Int.ne_of_lt a)))) .inr
      · exact (gt_transfer v _ (Decidable.not_not.1 fun g => hsat ⟨h, g⟩)).elim
          (fun a => .inl (.inl (.inr (Int.ne_of_gt a)))) fun a => .inl (.inr a)
    case gt => exact gt_transfer v _ hsat
    case gte => exact not_lt_transfer v _ hV hsat
    case lt => exact lt_transfer v _ hsat
    case lte => exact not_gt_transfer v _ hV hsat
    case isIn =>
      obtain ⟨x, hx, hxe⟩ := hsat
      exact ⟨x, hx, not_gt_transfer v _ (hVs x hx) hxe.2, not_lt_transfer v _ (hVs x hx) hxe.1⟩
    case between => exact ⟨not_gt_transfer v _ hMax hsat.2, not_lt_transfer v _ hMin hsat.1⟩
    case notBetween =>
      rcases hsat with h | h
      · exact (lt_transfer v _ h).elim (fun a => .inl (.inl (.inl a))) .inr
      · exact (gt_transfer v _ h).elim (fun a => .inl (.inl (.inr a))) fun a => .inl (.inr a)

/-- Widening an ordered range never flips the minmax leaf from kept to pruned, as long as
    the saturation flags cannot be lost on the way: either the operands are int64 (then a bound
    pushed beyond int64 still compares the right way) or the wide range is itself within int64. -/
theorem evalMinMax_widen (mm mm' : MinMaxIndex) (c : NumericCondition)
    (hs : c.WF ∨ (InI64 mm'.Min ∧ InI64 mm'.Max))
    (hle : mm.Min ≤ mm.Max) (h1 : mm'.Min ≤ mm.Min) (h2 : mm.Max ≤ mm'.Max)
    (h : evalMinMax mm c = true) : evalMinMax mm' c = true := by
  unfold evalMinMax at *
  unfold NumericCondition.WF InI64 at *
  cases hop : parseOp c.Operator with
  | none => simp [hop] at h
  | some op =>
    simp only [hop] at h ⊢
    cases op <;> simp only [Bool.and_eq_true, Bool.or_eq_true, decide_eq_true_eq, List.any_eq_true] at h ⊢
    case isIn =>
      obtain ⟨x, hx, a, b⟩ := h
      exact ⟨x, hx, Int.le_trans h1 a, Int.le_trans b h2⟩
    case eq | between => exact ⟨Int.le_trans h1 h.1, Int.le_trans h.2 h2⟩
    case gte => exact Int.le_trans h h2
    case lte => exact Int.le_trans h1 h
    -- what is left compares with a saturation flag, which `hs` keeps from being lost
    all_goals omega

end BloomVerif
