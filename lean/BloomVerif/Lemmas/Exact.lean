/- The query pipeline of one file as a single filter (`queryFile_eq_filter`). From it: over arbitrary
   files the answer is a sublist of the stored rows and every returned row matches; over
   index-covered files it is exactly the matching rows of the kept blocks (`queryFile_eq`,
   `mem_query`). -/
import BloomVerif.Lemmas.Content
namespace BloomVerif

/-- `flatMap` is monotone in the list and in the function. -/
theorem flatMap_sublist {α β : Type} {g h : α → List β} {l₁ l₂ : List α} (hl : l₁.Sublist l₂) :
    (∀ x ∈ l₁, (g x).Sublist (h x)) → (l₁.flatMap g).Sublist (l₂.flatMap h) := by
  induction hl with
  | slnil => exact fun _ => .slnil
  | cons a _ ih => exact fun H => (ih H).trans (List.sublist_append_right ..)
  | cons_cons a _ ih =>
    exact fun H => (H a (List.mem_cons_self ..)).append (ih fun x hx => H x (List.mem_cons_of_mem _ hx))

theorem flatMap_congr_mem {α β : Type} (g h : α → List β) (l : List α) (H : ∀ x ∈ l, g x = h x) :
    l.flatMap g = l.flatMap h := by
  rw [List.flatMap_def, List.flatMap_def, List.map_congr_left H]

/-- An empty `keptBlocks` needs no case of its own: the `flatMap` over it is empty. -/
theorem queryFile_eq_filter (s : Sem) (q : Query) (f : FileM) :
    queryFile s q f = (keptBlocks q f).flatMap (fun b => b.rows.filter (fun r =>
      evalFilt f.filt q.prune && evalFilt b.filt q.prune && rowMatches s q r)) := by
  unfold queryFile
  cases hf : evalFilt f.filt q.prune
  · cases keptBlocks q f <;> simp
  · cases hk : keptBlocks q f with
    | nil => rfl
    | cons b bs =>
      refine flatMap_congr_mem _ _ _ fun b _ => ?_
      cases evalFilt b.filt q.prune <;> simp

theorem gates_of_match (s : Sem) (q : Query) (f : FileM) (hwf : FileWF s f)
    (b : Block) (hb : b ∈ f.blocks) (r : Row) (hr : r ∈ b.rows)
    (hm : rowMatches s q r = true) :
    evalFilt f.filt q.prune = true ∧ evalFilt b.filt q.prune = true :=
  have hent := match_entries s q r hm
  ⟨filt_ge_entries _ _ _ ((hwf b hb).2 r hr) hent, filt_ge_entries _ _ _ ((hwf b hb).1 r hr).2 hent⟩

theorem queryFile_eq (s : Sem) (q : Query) (f : FileM) (hwf : FileWF s f) :
    queryFile s q f = ((keptBlocks q f).flatMap (·.rows)).filter (rowMatches s q) := by
  rw [queryFile_eq_filter, List.filter_flatMap]
  refine flatMap_congr_mem _ _ _ fun b hb => List.filter_congr fun r hr => ?_
  cases hm : rowMatches s q r
  · simp
  · obtain ⟨h1, h2⟩ := gates_of_match s q f hwf b (List.mem_filter.1 hb).1 r hr hm
    simp [h1, h2]

theorem queryFile_sublist (s : Sem) (q : Query) (f : FileM) :
    (queryFile s q f).Sublist (f.blocks.flatMap (·.rows)) := by
  rw [queryFile_eq_filter]
  exact flatMap_sublist List.filter_sublist fun b _ => List.filter_sublist

theorem queryFile_matches (s : Sem) (q : Query) (f : FileM) (r : Row) (h : r ∈ queryFile s q f) :
    rowMatches s q r = true := by
  rw [queryFile_eq_filter] at h
  obtain ⟨b, _, hb⟩ := List.mem_flatMap.mp h
  exact (Bool.and_eq_true _ _ ▸ (List.mem_filter.mp hb).2).2

theorem mem_query (s : Sem) (files : List FileM) (q : Query) (hwf : ∀ f ∈ files, FileWF s f)
    (r : Row) :
    r ∈ query s files q ↔ ∃ f ∈ files, ∃ b ∈ f.blocks,
      evalPre b.md q.pre = true ∧ r ∈ b.rows ∧ rowMatches s q r = true := by
  constructor
  · intro h
    obtain ⟨f, hf, hr⟩ := List.mem_flatMap.1 h
    rw [queryFile_eq s q f (hwf f hf)] at hr
    obtain ⟨hr, hm⟩ := List.mem_filter.1 hr
    obtain ⟨b, hb, hrb⟩ := List.mem_flatMap.1 hr
    obtain ⟨hb, hp⟩ := List.mem_filter.1 hb
    exact ⟨f, hf, b, hb, hp, hrb, hm⟩
  · rintro ⟨f, hf, b, hb, hp, hr, hm⟩
    refine List.mem_flatMap.2 ⟨f, hf, ?_⟩
    rw [queryFile_eq s q f (hwf f hf)]
    exact List.mem_filter.2 ⟨List.mem_flatMap.2 ⟨b, List.mem_filter.2 ⟨hb, hp⟩, hr⟩, hm⟩

end BloomVerif
