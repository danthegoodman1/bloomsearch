/-
  Trace induction, once. The transition-system models (cursor, pipeline, slots, the two snapshot
  disciplines) each define `run` by the same recursion over a partial `step`; `Iterates` names that
  shape, and `Iterates.induct` is the one induction over traces their invariants need. (For the total
  machines run by `List.foldl`, core's `List.foldlRecOn` is that induction.)
-/
namespace BloomVerif

structure Iterates {σ ε : Type} (step : σ → ε → Option σ) (run : σ → List ε → Option σ) : Prop where
  nil : ∀ s, run s [] = some s
  cons : ∀ s e es, run s (e :: es) = (step s e).bind (run · es)

namespace Iterates
variable {σ ε : Type} {step : σ → ε → Option σ} {run : σ → List ε → Option σ}

theorem append (h : Iterates step run) (s : σ) (t₁ t₂ : List ε) :
    run s (t₁ ++ t₂) = (run s t₁).bind (run · t₂) := by
  induction t₁ generalizing s with
  | nil => rw [h.nil]; rfl
  | cons e es ih => rw [List.cons_append, h.cons, h.cons, Option.bind_assoc]; exact congrArg _ (funext ih)

/-- `Q` is what is assumed of the events of the trace, `P` what every step taken shows of its event. -/
theorem induct (h : Iterates step run) (I : σ → Prop) (Q P : ε → Prop)
    (hstep : ∀ s e s', Q e → I s → step s e = some s' → I s' ∧ P e) :
    ∀ {tr s s'}, (∀ e ∈ tr, Q e) → I s → run s tr = some s' → I s' ∧ ∀ e ∈ tr, P e
  | [], s, s', _, hi, hr => by
    rw [h.nil] at hr; cases hr; exact ⟨hi, fun _ h => nomatch h⟩
  | e :: es, s, s', hq, hi, hr => by
    rw [h.cons] at hr
    obtain ⟨s1, h1, hr⟩ := Option.bind_eq_some_iff.1 hr
    obtain ⟨hi1, hp⟩ := hstep s e s1 (hq e List.mem_cons_self) hi h1
    obtain ⟨hi', hps⟩ := h.induct I Q P hstep (fun x hx => hq x (List.mem_cons_of_mem _ hx)) hi1 hr
    exact ⟨hi', fun x hx => by cases hx with | head => exact hp | tail _ hx => exact hps x hx⟩

theorem inv (h : Iterates step run) (I : σ → Prop) (hstep : ∀ s e s', I s → step s e = some s' → I s')
    {tr s s'} (hi : I s) (hr : run s tr = some s') : I s' :=
  (h.induct I (fun _ => True) (fun _ => True) (fun s e s' _ hi hs => ⟨hstep s e s' hi hs, trivial⟩)
    (fun _ _ => trivial) hi hr).1

theorem events (h : Iterates step run) (I : σ → Prop) (P : ε → Prop)
    (hstep : ∀ s e s', I s → step s e = some s' → I s' ∧ P e)
    {tr s s'} (hi : I s) (hr : run s tr = some s') : I s' ∧ ∀ e ∈ tr, P e :=
  h.induct I (fun _ => True) P (fun s e s' _ => hstep s e s') (fun _ _ => trivial) hi hr

end Iterates

end BloomVerif
