/-
  The ingest actor (C10): adding rows keeps the buffer's bookkeeping consistent and under its limits
  (`step_inv`), and no row id is lost or duplicated on the way to the flush worker (`step_ids`, `run_ids`).
  `step_batch` is `step` on a non-empty batch as one equation.
-/
import BloomVerif.Model.Actor
namespace BloomVerif.Actor

def Positive (c : ACfg) : Prop := 0 < c.maxBufRows ∧ 0 < c.maxBufBytes ∧ 0 < c.maxGroupRows ∧ 0 < c.maxGroupBytes

theorem partIds_nil : partIds [] = [] := rfl

theorem partIds_cons (p : Part) (ps : List Part) : partIds (p :: ps) = p.rows ++ partIds ps := by
  simp [partIds]

theorem addRows_nil (parts : List Part) : addRows [] parts = parts := rfl

theorem addRows_cons (r : RowIn) (rows : List RowIn) (parts : List Part) :
    addRows (r :: rows) parts = addRows rows (addRow r parts) := rfl

theorem addRow_ids (r : RowIn) (ps : List Part) :
    (partIds (addRow r ps)).Perm (partIds ps ++ [r.id]) := by
  induction ps with
  | nil => simp [addRow, partIds]
  | cons p ps ih =>
    simp only [addRow]
    split
    · simp only [partIds_cons, List.append_assoc]
      exact List.Perm.append_left _ List.perm_append_comm
    · simp only [partIds_cons, List.append_assoc]
      exact List.Perm.append_left _ ih

theorem addRow_pids (r : RowIn) (ps : List Part) :
    (addRow r ps).map (·.pid) =
      if r.pid ∈ ps.map (·.pid) then ps.map (·.pid) else ps.map (·.pid) ++ [r.pid] := by
  induction ps with
  | nil => simp [addRow]
  | cons p ps ih =>
    by_cases hp : p.pid = r.pid
    · simp [addRow, hp]
    · have hp' : ¬ r.pid = p.pid := fun e => hp e.symm
      simp only [addRow, hp, if_false, List.map_cons, ih, List.mem_cons, hp', false_or]
      split <;> simp

theorem addRow_pids_nodup (r : RowIn) (ps : List Part) (h : (ps.map (·.pid)).Nodup) :
    ((addRow r ps).map (·.pid)).Nodup := by
  rw [addRow_pids]
  split
  · exact h
  · rename_i hn
    exact (List.perm_append_singleton _ _).nodup_iff.2 (List.nodup_cons.2 ⟨hn, h⟩)

theorem mem_addRow {r : RowIn} {ps : List Part} {p : Part} (hp : p ∈ addRow r ps) :
    p ∈ ps ∨ (p.pid = r.pid ∧ p.rows ≠ []) := by
  induction ps with
  | nil => simp [addRow] at hp; subst hp; simp
  | cons q qs ih =>
    simp only [addRow] at hp
    split at hp
    · rename_i hq
      rcases List.mem_cons.1 hp with rfl | hm
      · exact Or.inr ⟨hq, by simp⟩
      · exact Or.inl (List.mem_cons_of_mem _ hm)
    · rcases List.mem_cons.1 hp with rfl | hm
      · exact Or.inl List.mem_cons_self
      · exact (ih hm).imp_left (List.mem_cons_of_mem _)

theorem addRow_nonempty (r : RowIn) (ps : List Part) (h : ∀ p ∈ ps, p.rows ≠ []) :
    ∀ p ∈ addRow r ps, p.rows ≠ [] :=
  fun p hp => (mem_addRow hp).elim (h p) (·.2)

theorem addRow_untouched (r : RowIn) (ps : List Part) (p : Part) (hp : p ∈ addRow r ps)
    (hne : r.pid ≠ p.pid) : p ∈ ps :=
  (mem_addRow hp).resolve_right fun h => hne h.1.symm

theorem addRow_bytes (r : RowIn) (ps : List Part) :
    ((addRow r ps).map (·.bytes)).sum = (ps.map (·.bytes)).sum + r.size := by
  induction ps with
  | nil => simp [addRow]
  | cons q qs ih =>
    simp only [addRow]
    split
    · simp only [List.map_cons, List.sum_cons]; omega
    · simp only [List.map_cons, List.sum_cons, ih]; omega

theorem addRows_bytes (rows : List RowIn) (parts : List Part) :
    ((addRows rows parts).map (·.bytes)).sum = (parts.map (·.bytes)).sum + sumSize rows := by
  induction rows generalizing parts with
  | nil => simp [addRows_nil, sumSize]
  | cons r rows ih =>
    rw [addRows_cons, ih, addRow_bytes]
    simp only [sumSize, List.map_cons, List.sum_cons]; omega

theorem addRows_untouched (rows : List RowIn) (parts : List Part) (p : Part)
    (hp : p ∈ addRows rows parts) (hne : ∀ r ∈ rows, r.pid ≠ p.pid) : p ∈ parts :=
  List.foldlRecOn (motive := fun ps => p ∈ ps → p ∈ parts) rows _ id
    (fun ps ih r hr h => ih (addRow_untouched r ps p h (hne r hr))) hp

theorem addRows_ids (rows : List RowIn) (parts : List Part) :
    (partIds (addRows rows parts)).Perm (partIds parts ++ rows.map (·.id)) := by
  induction rows generalizing parts with
  | nil => simp [addRows_nil]
  | cons r rows ih =>
    refine (ih (addRow r parts)).trans ?_
    have := (addRow_ids r parts).append_right (rows.map (·.id))
    simpa [List.append_assoc] using this

theorem addRows_length (rows : List RowIn) (parts : List Part) :
    (partIds (addRows rows parts)).length = (partIds parts).length + rows.length := by
  have := (addRows_ids rows parts).length_eq
  simpa using this

theorem init_inv (c : ACfg) (hc : Positive c) : UnderLimits c {} ∧ Consistent {} := by
  obtain ⟨h1, h2, _, _⟩ := hc
  refine ⟨⟨?_, h1, h2⟩, rfl, rfl, ?_, ?_, ?_⟩
  · intro p hp; cases hp
  · intro h; exact absurd h (Nat.lt_irrefl 0)
  · exact List.nodup_nil
  · intro p hp; cases hp

/-- The trigger condition in terms of the *resulting* buffer: after adding the batch, the buffer
    holds ≥ MaxBufferedRows rows, or ≥ MaxBufferedBytes bytes, or some partition the batch touched
    holds ≥ MaxRowGroupRows rows or ≥ MaxRowGroupBytes bytes. -/
def reaches (c : ACfg) (s : ASt) (rows : List RowIn) : Bool :=
  partAtLimit c rows (addRows rows s.parts) || decide (s.rows + rows.length ≥ c.maxBufRows) ||
  decide (s.bytes + sumSize rows ≥ c.maxBufBytes)

/-- `step` on a non-empty batch. The start time is the stored one or, for an empty buffer, `now`. -/
theorem step_batch (c : ACfg) (s : ASt) (w : Nat) (rows : List RowIn) (now : Nat) (hne : rows ≠ []) :
    step c s (.batch w rows now) =
      if reaches c s rows || elapsed c (some (s.t0.getD now)) now
      then ({}, [.flush (addRows rows s.parts) (s.waiters ++ [w])])
      else ({ parts := addRows rows s.parts, waiters := s.waiters ++ [w], rows := s.rows + rows.length,
              bytes := s.bytes + sumSize rows, t0 := some (s.t0.getD now) }, []) := by
  have hemp : rows.isEmpty = false := by simpa using hne
  simp only [step, hemp, reaches]
  cases s.t0 <;> rfl

theorem step_inv (c : ACfg) (hc : Positive c) (s : ASt) (m : Msg)
    (h : UnderLimits c s ∧ Consistent s) : UnderLimits c (step c s m).1 ∧ Consistent (step c s m).1 := by
  cases m with
  | bad w => exact h
  | force w => exact init_inv c hc
  | tick now =>
    simp only [step]
    split
    · exact init_inv c hc
    · exact h
  | batch w rows now =>
    by_cases hne : rows = []
    · subst hne; exact h
    rw [step_batch c s w rows now hne]
    split
    · exact init_inv c hc
    -- no trigger fires and the batch is buffered: every limit is one of the negated trigger conditions
    rename_i hcond
    simp only [reaches, Bool.or_eq_true, not_or, decide_eq_true_eq, Bool.not_eq_true, Nat.not_le] at hcond
    obtain ⟨⟨⟨hpl, hr⟩, hb⟩, _⟩ := hcond
    obtain ⟨⟨hparts, _, _⟩, hrows, hbytes, _, hnd, hnon⟩ := h
    refine ⟨⟨?_, hr, hb⟩, ?_, ?_, fun _ => rfl, ?_, ?_⟩
    · intro p hp
      simp only [partAtLimit, List.any_eq_false] at hpl
      have hp' := hpl p hp
      by_cases ht : rows.any (fun r => decide (r.pid = p.pid)) = true
      · simp only [ht, Bool.true_and, Bool.or_eq_true, decide_eq_true_eq, not_or, Nat.not_le] at hp'
        exact hp'
      · have : ∀ r ∈ rows, r.pid ≠ p.pid := by
          intro r hr e
          exact ht (List.any_eq_true.2 ⟨r, hr, by simp [e]⟩)
        exact hparts p (addRows_untouched rows s.parts p hp this)
    · rw [addRows_length, hrows]
    · rw [addRows_bytes, hbytes]
    · exact List.foldlRecOn (motive := fun ps => (ps.map (·.pid)).Nodup) rows _ hnd fun ps h r _ => addRow_pids_nodup r ps h
    · exact List.foldlRecOn (motive := fun ps => ∀ p ∈ ps, p.rows ≠ []) rows _ hnon fun ps h r _ => addRow_nonempty r ps h

theorem effIds_append (a b : List Eff) : effIds (a ++ b) = effIds a ++ effIds b := by
  induction a with
  | nil => rfl
  | cons e es ih =>
    cases e with
    | ack w ok => simpa [effIds] using ih
    | flush parts ws => simp [effIds, ih]

theorem step_ids (c : ACfg) (s : ASt) (m : Msg) :
    (partIds (step c s m).1.parts ++ effIds (step c s m).2).Perm (partIds s.parts ++ msgIds [m]) := by
  cases m with
  | bad w => simp [step, effIds, msgIds]
  | force w => simp [step, effIds, msgIds, partIds]
  | tick now =>
    simp only [step]
    split <;> simp [effIds, msgIds, partIds]
  | batch w rows now =>
    by_cases hne : rows = []
    · subst hne; simp [step, effIds, msgIds]
    · rw [step_batch c s w rows now hne]
      split
      · simpa [effIds, msgIds, partIds_nil] using addRows_ids rows s.parts
      · simpa [effIds, msgIds] using addRows_ids rows s.parts

theorem msgIds_cons (m : Msg) (ms : List Msg) : msgIds (m :: ms) = msgIds [m] ++ msgIds ms := by
  cases m <;> simp [msgIds]

theorem run_ids (c : ACfg) (s : ASt) (ms : List Msg) :
    (partIds (runMsgs c s ms).1.parts ++ effIds (runMsgs c s ms).2).Perm (partIds s.parts ++ msgIds ms) := by
  induction ms generalizing s with
  | nil => simp [runMsgs, effIds, msgIds]
  | cons m ms ih =>
    have h1 := ih (step c s m).1
    have h2 := step_ids c s m
    -- counting occurrences turns the two permutations and the goal into linear equations
    simp only [runMsgs, effIds_append, msgIds_cons m ms, List.perm_iff_count, List.count_append] at h1 h2 ⊢
    intro a
    have := h1 a
    have := h2 a
    omega

end BloomVerif.Actor
