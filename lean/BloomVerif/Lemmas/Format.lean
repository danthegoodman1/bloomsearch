/-
  The byte framing of Model/Format. The regenerated, wrapping `validate` / `validateFilterSection` equal the exact
  ones because every subtraction stands behind guards that keep it in range; what the exact ones accept lies
  inside the file.
-/
import BloomVerif.Model.Format
import BloomVerif.Generated.Leaf
namespace BloomVerif

theorem digit256 {x : Nat} (y : Nat) (h : x < 256) : (x + 256 * y) % 256 = x ∧ (x + 256 * y) / 256 = y := by
  omega

/-- Horner form, so that `digit256` applies digit by digit: one `omega` over the flat sums with their 2^24
    coefficients is slow to check. -/
theorem u32le_horner (n : Nat) :
    u32le n = [UInt8.ofNat (n % 256), UInt8.ofNat (n / 256 % 256), UInt8.ofNat (n / 256 / 256 % 256),
      UInt8.ofNat (n / 256 / 256 / 256 % 256)] := by
  simp only [u32le, Nat.div_div_eq_div_mul, Nat.reduceMul]

theorem u32dec_horner (a b c d : UInt8) :
    u32dec a b c d = a.toNat + 256 * (b.toNat + 256 * (c.toNat + 256 * d.toNat)) := by
  unfold u32dec; omega

theorem u32le_u32dec (a b c d : UInt8) : u32le (u32dec a b c d) = [a, b, c, d] := by
  have ha := digit256 (b.toNat + 256 * (c.toNat + 256 * d.toNat)) a.toNat_lt
  have hb := digit256 (c.toNat + 256 * d.toNat) b.toNat_lt
  have hc := digit256 d.toNat c.toNat_lt
  rw [u32le_horner, u32dec_horner, ha.1, ha.2, hb.1, hb.2, hc.1, hc.2, Nat.mod_eq_of_lt d.toNat_lt]
  simp only [UInt8.ofNat_toNat]

theorem u32dec_u32le_aux (n : Nat) (h : n < 4294967296) :
    (match u32le n with | [a, b, c, d] => u32dec a b c d | _ => 0) = n := by
  rw [u32le_horner]
  simp only [u32dec_horner, UInt8.toNat_ofNat', Nat.mod_mod]
  rw [Nat.mod_eq_of_lt (a := n / 256 / 256 / 256) (by omega), Nat.mod_add_div, Nat.mod_add_div, Nat.mod_add_div]

theorem scanRows_ok_inv {fuel : Nat} {bs : Bytes} {rs : List Bytes} (h : scanRows (fuel + 1) bs = .ok rs) :
    (bs = [] ∧ rs = []) ∨ ∃ a b c d rest rs', bs = a :: b :: c :: d :: rest ∧ u32dec a b c d ≤ rest.length ∧
      scanRows fuel (rest.drop (u32dec a b c d)) = .ok rs' ∧ rs = rest.take (u32dec a b c d) :: rs' := by
  unfold scanRows at h
  split at h
  · exact .inl ⟨rfl, (Except.ok.inj h).symm⟩
  · rename_i a b c d rest
    dsimp only at h
    split at h
    · cases h
    · split at h
      · rename_i rs' hrs
        exact .inr ⟨a, b, c, d, rest, rs', rfl, by omega, hrs, (Except.ok.inj h).symm⟩
      · cases h
  · cases h

theorem sumRow_cons (b : BlockSize) (t : List BlockSize) : sumRow (b :: t) = b.rowData + sumRow t := by
  simp [sumRow]
theorem sumFilter_cons (b : BlockSize) (t : List BlockSize) : sumFilter (b :: t) = b.filter + sumFilter t := by
  simp [sumFilter]
theorem sumRow_nil : sumRow [] = 0 := rfl
theorem sumFilter_nil : sumFilter [] = 0 := rfl

theorem layoutBlocks_length (region rowOff secOff : Nat) (bs : List BlockSize) :
    (layoutBlocks region rowOff secOff bs).length = bs.length := by
  induction bs generalizing rowOff secOff with
  | nil => rfl
  | cons b t ih => simp [layoutBlocks, ih]

/-- The layout in closed form: block `i` starts at the sums of the sizes before it. -/
theorem layoutBlocks_getElem? (region rowOff secOff : Nat) (bs : List BlockSize) (i : Nat) :
    (layoutBlocks region rowOff secOff bs)[i]? = bs[i]?.map fun b =>
      { RowDataOffset := (rowOff + sumRow (bs.take i) : Nat), RowDataSize := b.rowData,
        BloomFilterOffset := (region + secOff + sumFilter (bs.take i) : Nat), BloomFilterSize := b.filter } := by
  induction bs generalizing rowOff secOff i with
  | nil => rfl
  | cons b t ih =>
    cases i with
    | zero => rfl
    | succ i => simp [layoutBlocks, ih, sumRow_cons, sumFilter_cons, Nat.add_assoc]

theorem sum_take_le {α} (f : α → Nat) {l : List α} {i : Nat} {x : α} (h : l[i]? = some x) :
    ((l.take i).map f).sum + f x ≤ (l.map f).sum := by
  obtain ⟨hi, rfl⟩ := List.getElem?_eq_some_iff.mp h
  conv => rhs; rw [← List.take_append_drop i l, List.drop_eq_getElem_cons hi]
  simp only [List.map_append, List.sum_append, List.map_cons, List.sum_cons]
  omega

theorem validSection_iff {b : DataBlockMetadata} {rs re : Int} :
    validSection b rs re = true ↔ 0 ≤ b.BloomFilterSize ∧ (b.BloomFilterSize > 0 →
      rs ≤ b.BloomFilterOffset ∧ b.BloomFilterOffset + b.BloomFilterSize ≤ re) := by
  simp only [validSection, Bool.if_false_left, Bool.if_true_left, Bool.and_eq_true, Bool.or_eq_true,
    Bool.not_eq_true', decide_eq_true_eq, decide_eq_false_iff_not]
  omega

/-- The exact validation accepts exactly the files whose extents lie inside the data area. -/
theorem validFile_iff {m : FileMetadata} {dataLimit : Int} : validFile m dataLimit = true ↔ InBounds m dataLimit := by
  simp only [validFile, InBounds, Bool.and_eq_true, List.all_eq_true, decide_eq_true_eq, validSection_iff,
    ← and_assoc (c := ∀ x ∈ _, _)]
  exact and_congr (by omega) (forall₂_congr fun b _ => and_congr_left' (by omega))

theorem layout_inBounds (bs : List BlockSize) (dataLimit : Int)
    (h : (sumRow bs + sumFilter bs : Int) ≤ dataLimit) : InBounds (layout bs) dataLimit := by
  refine ⟨by simp [layout], by simp [layout], h, fun b hb => ?_⟩
  -- `b` is the block of some `x = bs[i]`; it ends at a sum over a prefix of `bs`, which the sum over `bs` bounds
  obtain ⟨i, hi⟩ := List.mem_iff_getElem?.mp hb
  rw [layout, layoutBlocks_getElem?] at hi
  obtain ⟨x, hx, rfl⟩ := Option.map_eq_some_iff.mp hi
  have h1 : sumRow (bs.take i) + x.rowData ≤ sumRow bs := sum_take_le BlockSize.rowData hx
  have h2 : sumFilter (bs.take i) + x.filter ≤ sumFilter bs := sum_take_le BlockSize.filter hx
  dsimp only [layout]
  omega

/- Without a bound on the region span the wrapping and the exact section check differ, even on int64 inputs:
   with a negative region offset, `regionEnd - offset` can exceed int64, the Go subtraction wraps to a negative
   number, and the wrapping check refuses a section that the exact check accepts. -/
example : Gen.validateFilterSection { BloomFilterOffset := -5, BloomFilterSize := 1 } (-10) 9223372036854775807 = false := by decide
example : validSection { BloomFilterOffset := -5, BloomFilterSize := 1 } (-10) 9223372036854775807 = true := by decide
example : BlockI64 { BloomFilterOffset := -5, BloomFilterSize := 1 } ∧ InI64 (-10) ∧ InI64 9223372036854775807 := by
  refine ⟨⟨?_, ?_, ?_, ?_⟩, ?_, ?_⟩ <;> decide

/-- The bound on the span follows from `0 ≤ ro` and `re ≤ maxInt64`; nothing is asked of the block's fields. -/
theorem validSection_bridge {b : DataBlockMetadata} {ro re : Int} (h : re - ro ≤ maxInt64) :
    Gen.validateFilterSection b ro re = validSection b ro re := by
  -- both checks as propositions; with `wrap64` unfolded, the guards in front of the subtraction are what
  -- `omega` needs to see that it does not wrap
  rw [Bool.eq_iff_iff]
  simp only [Gen.validateFilterSection, validSection, Bool.if_false_left, Bool.if_true_left, Bool.and_eq_true,
    Bool.or_eq_true, Bool.not_eq_true', decide_eq_true_eq, decide_eq_false_iff_not, and_true]
  unfold wsub wrap64
  i64omega

theorem validSection_bridge_aux (b : DataBlockMetadata) (ro re : Int) (hb : BlockI64 b)
    (h1 : InI64 ro) (h2 : InI64 re) (h3 : re - ro ≤ maxInt64) :
    Gen.validateFilterSection b ro re = validSection b ro re := by
  have _ := hb; have _ := h1; have _ := h2  -- not needed
  exact validSection_bridge h3

theorem validSection_sound_aux (b : DataBlockMetadata) (ro re : Int) (hb : BlockI64 b)
    (h2 : InI64 re) (h : Gen.validateFilterSection b ro re = true) :
    validSection b ro re = true := by
  -- `re - offset < 2^64` is what makes a wrapped difference negative, so that a positive size is refused
  obtain ⟨_, _, ⟨ho, _⟩, _⟩ := hb
  obtain ⟨_, hre⟩ := h2
  revert h
  simp only [Gen.validateFilterSection, validSection, Bool.if_false_left, Bool.if_true_left, Bool.and_eq_true,
    Bool.or_eq_true, Bool.not_eq_true', decide_eq_true_eq, decide_eq_false_iff_not]
  unfold wsub wrap64
  i64omega

theorem validate_bridge {m : FileMetadata} {dataLimit : Int} (hd : dataLimit ≤ maxInt64) :
    Gen.validate m dataLimit = validFile m dataLimit := by
  rw [Bool.eq_iff_iff]
  simp only [Gen.validate, validFile, Bool.if_false_left, Bool.if_true_left, Bool.and_eq_true,
    Bool.or_eq_true, Bool.not_eq_true', decide_eq_true_eq, decide_eq_false_iff_not, List.all_eq_true,
    Bool.not_eq_false, Bool.if_true_right, Bool.or_false, ← and_assoc (c := ∀ x ∈ _, _)]
  -- the region guards first; under them the region end does not wrap and the per-block guards agree
  have hR : (¬(m.BlockFilterRegionOffset < 0 ∨ m.BlockFilterRegionSize < 0) ∧
      ¬((dataLimit < 0 ∨ dataLimit < m.BlockFilterRegionOffset) ∨
        wsub dataLimit m.BlockFilterRegionOffset < m.BlockFilterRegionSize)) ↔
      (0 ≤ m.BlockFilterRegionOffset ∧ 0 ≤ m.BlockFilterRegionSize ∧ 0 ≤ dataLimit ∧
        m.BlockFilterRegionOffset ≤ dataLimit ∧
        m.BlockFilterRegionSize ≤ dataLimit - m.BlockFilterRegionOffset) := by
    unfold wsub wrap64; i64omega
  rw [hR]
  refine and_congr_right fun hR => forall₂_congr fun b _ => ?_
  rw [wadd_id (by i64omega), validSection_bridge (by i64omega), ← and_assoc]
  refine and_congr_left fun _ => ?_
  unfold wsub wrap64; i64omega

theorem validate_bridge_aux (m : FileMetadata) (dataLimit : Int) (hm : FileI64 m) (hd : InI64 dataLimit) :
    Gen.validate m dataLimit = validFile m dataLimit := by
  have _ := hm  -- not needed
  exact validate_bridge hd.2

theorem chunkExtend_induct {target rs re start : Int} (P : Int → Prop)
    (step : ∀ e (nb : DataBlockMetadata), P e → validSection nb rs re = true → 0 < nb.BloomFilterSize →
      start ≤ nb.BloomFilterOffset → nb.BloomFilterOffset + nb.BloomFilterSize - start ≤ target →
      e < nb.BloomFilterOffset + nb.BloomFilterSize → P (nb.BloomFilterOffset + nb.BloomFilterSize)) :
    ∀ (rest : List DataBlockMetadata) (e : Int), P e → P (chunkExtend target rs re start e rest)
  | [], _, h => h
  | nb :: rest, e, h => by
    rw [chunkExtend]
    split
    · exact chunkExtend_induct P step rest e h
    split
    · exact h
    next h0 hv =>
    rw [Bool.not_eq_true', Bool.not_eq_false] at hv
    dsimp only
    split
    · exact h
    split
    · exact chunkExtend_induct P step rest _
        (step e nb h hv (by have := (validSection_iff.mp hv).1; omega) (by omega) (by omega) (by omega))
    · exact chunkExtend_induct P step rest e h

end BloomVerif
