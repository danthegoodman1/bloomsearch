/- What flush and merge build. Every minmax map they build is a list of insertions folded into a start
   map (`insAll`): it keeps every key of the start map with a range at least as wide (`MMLe`), covers
   what was inserted, lists no other key and stays within int64 if the insertions do. Filters built
   from a union of entry lists cover each of the lists; a flushed block is index-covered
   (`mkBlock_WF_aux`); `mergeGroup_spec` says what a merged or copied block is (C18 and C11 read their
   merge theorems off it). Last: widening the ranges of well-formed metadata keeps every prefilter
   leaf it passed (`evalPreCond_mono`). -/
import BloomVerif.Model.Content
import BloomVerif.Lemmas.Assoc
import BloomVerif.Lemmas.NumVal
namespace BloomVerif

/-- Well-formed minmax metadata: every stored range is ordered and within int64. -/
def MDWF (m : DataBlockMetadata) : Prop :=
  ∀ k mm, lookupMM k m.MinMaxIndexes = some mm → mm.Min ≤ mm.Max ∧ InI64 mm.Min ∧ InI64 mm.Max

theorem lookup_mmInsert (k : String) (lo hi : Int) (acc : List (String × MinMaxIndex)) (k' : String) :
    List.lookup k' (mmInsert k lo hi acc) =
      if k' = k then
        some (match List.lookup k acc with
              | none => (⟨lo, hi⟩ : MinMaxIndex)
              | some mm => updateMinMax mm lo hi)
      else List.lookup k' acc := by
  induction acc with
  | nil => simp [mmInsert, List.lookup_cons_ite]
  | cons p r ih =>
    obtain ⟨a, m⟩ := p
    by_cases ha : a = k
    · subst ha; simp only [mmInsert, if_true, List.lookup_cons_ite]; split <;> rfl
    · simp only [mmInsert, if_neg ha, List.lookup_cons_ite, ih, if_neg (Ne.symm ha)]
      by_cases h : k' = a
      · simp [h, ha]
      · simp [h]

/-- `b` lists every key of `a` with a range at least as wide. -/
def MMLe (a b : List (String × MinMaxIndex)) : Prop :=
  ∀ k mm, a.lookup k = some mm → ∃ mm', b.lookup k = some mm' ∧ mm'.Min ≤ mm.Min ∧ mm.Max ≤ mm'.Max

/-- The map binds `k` to a range containing `[lo, hi]` (what `Covers` asks for each indexed value
    of a row, and `MMLe a b` for each binding of `a`). `Covers` and `MDWF` spell the lookup `lookupMM k m`,
    which is `m.lookup k` by definition. -/
def MMCovers (m : List (String × MinMaxIndex)) (k : String) (lo hi : Int) : Prop :=
  ∃ mm, m.lookup k = some mm ∧ mm.Min ≤ lo ∧ hi ≤ mm.Max

theorem MMCovers.mono {a b : List (String × MinMaxIndex)} {k : String} {lo hi : Int}
    (h : MMCovers a k lo hi) (hle : MMLe a b) : MMCovers b k lo hi := by
  obtain ⟨mm, e, l, u⟩ := h
  obtain ⟨mm', e', l', u'⟩ := hle k mm e
  exact ⟨mm', e', Int.le_trans l' l, Int.le_trans u u'⟩

theorem MMLe.refl (a : List (String × MinMaxIndex)) : MMLe a a :=
  fun _ mm h => ⟨mm, h, Int.le_refl _, Int.le_refl _⟩

theorem MMLe.trans {a b c : List (String × MinMaxIndex)} (h1 : MMLe a b) (h2 : MMLe b c) : MMLe a c :=
  fun k mm h => MMCovers.mono (h1 k mm h) h2

theorem mmInsert_self (k : String) (lo hi : Int) (acc : List (String × MinMaxIndex)) :
    MMCovers (mmInsert k lo hi acc) k lo hi := by
  unfold MMCovers
  rw [lookup_mmInsert, if_pos rfl]
  cases List.lookup k acc with
  | none => exact ⟨_, rfl, Int.le_refl _, Int.le_refl _⟩
  | some mm =>
    have := updateMinMax_covers mm lo hi
    exact ⟨_, rfl, this.2.2.1, this.2.2.2⟩

theorem mmInsert_le (k : String) (lo hi : Int) (acc : List (String × MinMaxIndex)) :
    MMLe acc (mmInsert k lo hi acc) := by
  intro k' mm0 h
  rw [lookup_mmInsert]
  by_cases hk : k' = k
  · subst hk
    rw [if_pos rfl, h]
    have := updateMinMax_covers mm0 lo hi
    exact ⟨_, rfl, this.1, this.2.1⟩
  · rw [if_neg hk]; exact ⟨mm0, h, Int.le_refl _, Int.le_refl _⟩

theorem mmInsert_isSome (k : String) (lo hi : Int) (acc : List (String × MinMaxIndex)) (k' : String) :
    (List.lookup k' (mmInsert k lo hi acc)).isSome = true ↔ k' = k ∨ (List.lookup k' acc).isSome = true := by
  rw [lookup_mmInsert]
  by_cases hk : k' = k
  · rw [if_pos hk]; exact ⟨fun _ => .inl hk, fun _ => rfl⟩
  · rw [if_neg hk]; exact ⟨.inr, fun h => h.resolve_left hk⟩

/-- Every range the map yields is within int64. -/
def MMIn (a : List (String × MinMaxIndex)) : Prop :=
  ∀ k mm, a.lookup k = some mm → InI64 mm.Min ∧ InI64 mm.Max

theorem mmInsert_in (k : String) (lo hi : Int) (acc : List (String × MinMaxIndex))
    (ha : MMIn acc) (hlo : InI64 lo) (hhi : InI64 hi) : MMIn (mmInsert k lo hi acc) := by
  intro k' mm h
  rw [lookup_mmInsert] at h
  by_cases hk : k' = k
  · rw [if_pos hk] at h
    cases hl : List.lookup k acc with
    | none => rw [hl] at h; cases h; exact ⟨hlo, hhi⟩
    | some m0 => rw [hl] at h; cases h; exact updateMinMax_in m0 lo hi (ha k m0 hl) hlo hhi
  · rw [if_neg hk] at h; exact ha k' mm h

/-- Flush and merge build every minmax map the same way: the triples `(key, lo, hi)` of `ins` are
    inserted one by one into a start map. `blockMinMax_eq`, `mergeMM_eq` and `foldl_mergeMM_eq` say
    which triples each construction inserts. -/
def insAll (ins : List (String × Int × Int)) (acc : List (String × MinMaxIndex)) :
    List (String × MinMaxIndex) :=
  ins.foldl (fun acc t => mmInsert t.1 t.2.1 t.2.2 acc) acc

theorem insAll_le (ins : List (String × Int × Int)) (acc : List (String × MinMaxIndex)) :
    MMLe acc (insAll ins acc) :=
  List.foldlRecOn (motive := MMLe acc) ins _ (MMLe.refl acc) fun a h t _ =>
    h.trans (mmInsert_le t.1 t.2.1 t.2.2 a)

/-- The insertion covers the triple, and the later ones only widen. -/
theorem insAll_covers {ins : List (String × Int × Int)} {k : String} {lo hi : Int}
    (h : (k, lo, hi) ∈ ins) (acc : List (String × MinMaxIndex)) : MMCovers (insAll ins acc) k lo hi := by
  obtain ⟨l1, l2, rfl⟩ := List.append_of_mem h
  rw [insAll, List.foldl_append, List.foldl_cons]
  exact (mmInsert_self k lo hi _).mono (insAll_le l2 _)

theorem insAll_isSome (k : String) (ins : List (String × Int × Int)) (acc : List (String × MinMaxIndex)) :
    (List.lookup k (insAll ins acc)).isSome = true ↔
      (∃ t ∈ ins, t.1 = k) ∨ (List.lookup k acc).isSome = true := by
  induction ins generalizing acc with
  | nil => simp [insAll]
  | cons t r ih =>
    rw [insAll, List.foldl_cons, ← insAll, ih, mmInsert_isSome]
    simp only [List.mem_cons, or_and_right, exists_or, exists_eq_left]
    rw [eq_comm, or_left_comm, or_assoc]

theorem insAll_in {ins : List (String × Int × Int)} {acc : List (String × MinMaxIndex)} (ha : MMIn acc)
    (h : ∀ t ∈ ins, InI64 t.2.1 ∧ InI64 t.2.2) : MMIn (insAll ins acc) :=
  List.foldlRecOn (motive := MMIn) ins _ ha fun _ ha t ht =>
    mmInsert_in _ _ _ _ ha (h t ht).1 (h t ht).2

/-- What flush inserts: for every row, the int64 range of its value under each configured key. -/
def rowIns (keys : List String) (rows : List Row) : List (String × Int × Int) :=
  rows.flatMap fun r => keys.filterMap fun k => (r.pre.vals k).map fun v => (k, toRange v)

theorem blockMinMax_eq (keys : List String) (rows : List Row) :
    blockMinMax keys rows = insAll (rowIns keys rows) [] := by
  rw [insAll, rowIns, List.foldl_flatMap]
  refine congrArg (rows.foldl · []) (funext fun acc => funext fun r => ?_)
  rw [List.foldl_filterMap]
  refine congrArg (keys.foldl · acc) (funext fun acc => funext fun k => ?_)
  cases r.pre.vals k <;> rfl

theorem blockMinMax_covers (keys : List String) (rows : List Row) (r : Row) (hr : r ∈ rows)
    (k : String) (v : NumVal) (hk : k ∈ keys) (hv : r.pre.vals k = some v) :
    MMCovers (blockMinMax keys rows) k (toRange v).1 (toRange v).2 :=
  blockMinMax_eq keys rows ▸
    insAll_covers (List.mem_flatMap.2 ⟨r, hr, List.mem_filterMap.2 ⟨k, hk, hv ▸ rfl⟩⟩) []

/-- The exact set as a filter: the `build` of the witnesses. -/
theorem soundBuild_contains : SoundBuild fun l x => l.contains x := fun _ _ h => List.contains_iff_mem.2 h

theorem filtCoversList_build (build : List Str → (Str → Bool)) (hb : SoundBuild build)
    (l l' : List Str) (h : ∀ x ∈ l', x ∈ l) : FiltCoversList (some (build l)) l' := by
  intro g hg x hx
  cases hg
  exact hb l x (h x hx)

theorem buildFilt_covers_self (build : List Str → (Str → Bool)) (hb : SoundBuild build) (en : Entries) :
    FiltCovers (buildFilt build en) en := by
  refine ⟨?_, ?_, ?_⟩ <;> exact filtCoversList_build build hb _ _ fun _ h => h

theorem buildFilt_covers (build : List Str → (Str → Bool)) (hb : SoundBuild build)
    (ens : List Entries) (en : Entries) (h : en ∈ ens) :
    FiltCovers (buildFilt build (unionEntries ens)) en := by
  refine ⟨?_, ?_, ?_⟩ <;>
    exact filtCoversList_build build hb _ _ fun x hx => List.mem_flatMap.mpr ⟨en, h, hx⟩

/-- (The name is spelt out in the witness `C11.nv_groups`; `C18.block_WF` is this statement.) -/
theorem mkBlock_WF_aux (s : Sem) (build : List Str → (Str → Bool)) (hb : SoundBuild build)
    (keys : List String) (pid : String) (rows : List Row)
    (hp : ∀ r ∈ rows, r.pre.pid = pid)
    (hk : ∀ r ∈ rows, ∀ f v, r.pre.vals f = some v → f ∈ keys) :
    BlockWF s (mkBlock s build keys pid rows) := by
  intro r hr
  refine ⟨⟨(hp r hr).symm, ?_⟩, ?_⟩
  · intro f v hv
    exact blockMinMax_covers keys rows r hr f v (hk r hr f v hv) hv
  · exact buildFilt_covers build hb _ _ (List.mem_map.mpr ⟨r, hr, rfl⟩)

/-- What a merge inserts: every stored pair of the other block, shadowed duplicates included. -/
def pairIns (b : List (String × MinMaxIndex)) : List (String × Int × Int) :=
  b.map fun p => (p.1, p.2.Min, p.2.Max)

theorem mergeMM_eq (a b : List (String × MinMaxIndex)) : mergeMM a b = insAll (pairIns b) a := by
  rw [insAll, pairIns, List.foldl_map]; rfl

theorem mergeMM_le (a b : List (String × MinMaxIndex)) : MMLe a (mergeMM a b) :=
  mergeMM_eq a b ▸ insAll_le _ a

theorem mergeMM_covers (a b : List (String × MinMaxIndex)) (k : String) (mm : MinMaxIndex)
    (h : (k, mm) ∈ b) : MMCovers (mergeMM a b) k mm.Min mm.Max :=
  mergeMM_eq a b ▸ insAll_covers (List.mem_map.2 ⟨_, h, rfl⟩) a

theorem foldl_mergeMM_eq (a : List (String × MinMaxIndex)) (rest : List Block) :
    rest.foldl (fun acc x => mergeMM acc x.md.MinMaxIndexes) a =
      insAll (rest.flatMap fun x => pairIns x.md.MinMaxIndexes) a := by
  simp only [mergeMM_eq]
  exact List.foldl_flatMap.symm

theorem validGroup_singleton (b : Block) : ValidGroup [b] := by
  refine ⟨by simp, fun x hx y hy => ?_⟩
  rw [List.mem_singleton.1 hx, List.mem_singleton.1 hy]
  exact ⟨rfl, fun _ => rfl⟩

theorem validGroup_pair {x y : Block} (hp : x.md.PartitionID = y.md.PartitionID)
    (hk : sameKeys x.md.MinMaxIndexes y.md.MinMaxIndexes) : ValidGroup [x, y] := by
  refine ⟨by simp, fun a ha b hb => ?_⟩
  simp only [List.mem_cons, List.not_mem_nil, or_false] at ha hb
  rcases ha with rfl | rfl <;> rcases hb with rfl | rfl
  · exact ⟨rfl, fun _ => rfl⟩
  · exact ⟨hp, hk⟩
  · exact ⟨hp.symm, fun k => (hk k).symm⟩
  · exact ⟨rfl, fun _ => rfl⟩

theorem mergeGroup_isSome (s : Sem) (build : List Str → (Str → Bool)) (g : List Block) (hg : g ≠ []) :
    ∃ b', mergeGroup s build g = some b' :=
  match g, hg with
  | [b], _ => ⟨b, rfl⟩
  | _ :: _ :: _, _ => ⟨_, rfl⟩

/-- What the block `b'` is that a merge group `g` becomes (merged or copied). -/
structure MergedFrom (s : Sem) (build : List Str → (Str → Bool)) (g : List Block) (b' : Block) : Prop where
  rows : b'.rows = g.flatMap (·.rows)
  /-- the first block's partition ID and minmax map, with every pair of the other blocks inserted -/
  md : ∃ b0 rest, g = b0 :: rest ∧ b'.md.PartitionID = b0.md.PartitionID ∧
    b'.md.MinMaxIndexes = insAll (rest.flatMap fun x => pairIns x.md.MinMaxIndexes) b0.md.MinMaxIndexes
  /-- a singleton group is copied with its filters; otherwise the filters are rebuilt from the rows -/
  filt : g = [b'] ∨ b'.filt = buildFilt build (unionEntries (b'.rows.map fun r => rowEntries s.tok r.json))

theorem mergeGroup_spec (s : Sem) (build : List Str → (Str → Bool)) (g : List Block) (b' : Block)
    (h : mergeGroup s build g = some b') : MergedFrom s build g b' := by
  match g, h with
  | [b], h => cases h; exact ⟨by simp, ⟨_, [], rfl, rfl, rfl⟩, .inl rfl⟩
  | b :: b2 :: rest, h => cases h; exact ⟨rfl, ⟨_, _, rfl, rfl, foldl_mergeMM_eq _ _⟩, .inr rfl⟩

theorem MergedFrom.pid {s : Sem} {build : List Str → (Str → Bool)} {g : List Block} {b' : Block}
    (m : MergedFrom s build g b') (hg : ValidGroup g) (x : Block) (hx : x ∈ g) :
    x.md.PartitionID = b'.md.PartitionID := by
  obtain ⟨b0, rest, rfl, e, _⟩ := m.md
  exact e ▸ (hg.2 x hx b0 List.mem_cons_self).1

theorem MergedFrom.widens {s : Sem} {build : List Str → (Str → Bool)} {g : List Block} {b' : Block}
    (m : MergedFrom s build g b') (x : Block) (hx : x ∈ g) :
    MMLe x.md.MinMaxIndexes b'.md.MinMaxIndexes := by
  obtain ⟨b0, rest, rfl, _, e⟩ := m.md
  rw [e]
  rcases List.mem_cons.1 hx with rfl | h
  · exact insAll_le _ _
  · intro k mm hl
    exact insAll_covers (List.mem_flatMap.2 ⟨x, h, List.mem_map.2 ⟨_, List.mem_of_lookup_eq_some hl, rfl⟩⟩) _

theorem MergedFrom.inI64 {s : Sem} {build : List Str → (Str → Bool)} {g : List Block} {b' : Block}
    (m : MergedFrom s build g b')
    (hpairs : ∀ x ∈ g, ∀ p ∈ x.md.MinMaxIndexes, InI64 p.2.Min ∧ InI64 p.2.Max) :
    MMIn b'.md.MinMaxIndexes := by
  obtain ⟨b0, rest, rfl, _, e⟩ := m.md
  rw [e]
  refine insAll_in (fun k mm hl => hpairs b0 List.mem_cons_self _ (List.mem_of_lookup_eq_some hl)) fun t ht => ?_
  obtain ⟨x, hx, ht⟩ := List.mem_flatMap.1 ht
  obtain ⟨p, hp, rfl⟩ := List.mem_map.1 ht
  exact hpairs x (List.mem_cons_of_mem _ hx) p hp

/-- With unique keys (a Go map), `MDWF` already bounds every stored pair. -/
theorem pairs_in_of_nodup (m : DataBlockMetadata) (hn : (m.MinMaxIndexes.map Prod.fst).Nodup)
    (h : MDWF m) : ∀ p ∈ m.MinMaxIndexes, InI64 p.2.Min ∧ InI64 p.2.Max :=
  fun p hp => (h p.1 p.2 (List.lookup_eq_some_of_mem hn hp)).2

/-- Widening the ranges of well-formed metadata keeps every leaf it passed, as long as no saturation
    flag can be lost on the way (`hs`, the side condition of `evalMinMax_widen`). -/
theorem evalPreCond_mono (m m' : DataBlockMetadata) (hp : m.PartitionID = m'.PartitionID)
    (hle : MMLe m.MinMaxIndexes m'.MinMaxIndexes) (hmd : MDWF m) (c : PreCond)
    (hs : c.WF ∨ MMIn m'.MinMaxIndexes) (h : evalPreCond m c = true) : evalPreCond m' c = true := by
  revert h
  unfold evalPreCond
  rw [← hp]
  refine ite_mono id (ite_mono ?_ id)
  cases hnc : c.MinMaxCondition with
  | none => exact id
  | some nc =>
    cases hl : lookupMM c.MinMaxFieldName m.MinMaxIndexes with
    | none => exact fun h => nomatch h
    | some mm =>
      obtain ⟨mm', hl', l1, u1⟩ := hle _ mm hl
      simp only [lookupMM, hl']
      exact evalMinMax_widen mm mm' nc (hs.imp (· nc hnc) (· _ mm' hl')) (hmd _ mm hl).1 l1 u1

end BloomVerif
