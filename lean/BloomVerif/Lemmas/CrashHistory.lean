/- C15 over histories: a flush (successful or failed) of one pointer never disturbs the durable files of
   other pointers, so every file whose flush completed stays complete in every crash state at every later
   mutation boundary. -/
import BloomVerif.Lemmas.Crash
namespace BloomVerif.Crash
open BloomVerif.FSStore

def NamesApart (b b' : String) : Prop :=
  dat b' ≠ dat b ∧ dat b' ≠ tmp b ∧ tmp b' ≠ dat b ∧ tmp b' ≠ tmp b

theorem NamesApart.dat_dat {b b' : String} (h : NamesApart b b') : dat b' ≠ dat b := h.1
theorem NamesApart.dat_tmp {b b' : String} (h : NamesApart b b') : dat b' ≠ tmp b := h.2.1
theorem NamesApart.tmp_dat {b b' : String} (h : NamesApart b b') : tmp b' ≠ dat b := h.2.2.1
theorem NamesApart.tmp_tmp {b b' : String} (h : NamesApart b b') : tmp b' ≠ tmp b := h.2.2.2

theorem namesApart_of_ne {b b' : String} (h : b' ≠ b) : NamesApart b b' :=
  ⟨fun e => h (dat_inj e), dat_ne_tmp _ _, fun e => dat_ne_tmp _ _ e.symm, fun e => h (tmp_inj e)⟩

structure WF (c : CFS) : Prop where
  cur : FSWF c.cur
  dur_lt : ∀ p i, c.dur.lookup p = some i → i < c.cur.next

structure Absent (p : String) (c : CFS) : Prop where
  cur : c.cur.lookup p = none
  dur : c.dur.lookup p = none

theorem run_append (c : CFS) (a b : List FOp) : run c (a ++ b) = run (run c a) b :=
  List.foldl_append

theorem WF.step {c c' : CFS} {op : FOp} (hs : Step c op c') (h : WF c) : WF c' := by
  cases hs with
  | create hp => exact ⟨FSWF_mk1 h.cur _ hp, fun p i hp' => Nat.lt_succ_of_lt (h.dur_lt p i hp')⟩
  | write _ bs => exact ⟨FSWF_append h.cur _ bs, h.dur_lt⟩
  | rename hp b => exact ⟨FSWF_mv h.cur hp b, h.dur_lt⟩
  | remove p => exact ⟨FSWF_remove h.cur p, h.dur_lt⟩
  | dirsync => exact ⟨h.cur, h.cur.lookup_lt⟩
  | fsync _ => exact ⟨h.cur, h.dur_lt⟩
  | nop => exact h

/-- The operation belongs to the flush protocol (successful or failed) of pointer `b`. -/
def Own (b : String) : FOp → Prop
  | .createExcl q => q = dat b ∨ q = tmp b
  | .write q _ => q = tmp b
  | .fsync q => q = tmp b
  | .rename a q => a = tmp b ∧ q = dat b
  | .remove q => q = dat b ∨ q = tmp b
  | .dirsync => True

theorem Own.avoids {b p : String} {op : FOp} (h : Own b op) (h1 : p ≠ dat b) (h2 : p ≠ tmp b) : Avoids p op := by
  cases op with
  | createExcl q | remove q => rcases h with rfl | rfl; exact Ne.symm h1; exact Ne.symm h2
  | write q _ | fsync q => exact (show q = tmp b from h) ▸ Ne.symm h2
  | rename a q => exact ⟨h.1 ▸ Ne.symm h2, h.2 ▸ Ne.symm h1⟩
  | dirsync => trivial

theorem Absent.step {p : String} {c c' : CFS} {op : FOp} (hs : Step c op c') (hav : Avoids p op) (h : Absent p c) :
    Absent p c' := by
  refine ⟨(hs.lookup hav).trans h.cur, ?_⟩
  cases hs with
  | dirsync => exact h.cur
  | _ => exact h.dur

/-- The frame invariant while pointer `b` is being flushed: `b'.dat` is bound, currently and durably, to
    inode `i` holding the complete fsynced content `d`; `i` is an allocated inode number; and the inode
    `b`'s writes go to (the one bound to `b.tmp`, if any) is not `i`. -/
structure Framed (b b' : String) (d : Bytes) (i : Nat) (c : CFS) : Prop where
  cur : c.cur.lookup (dat b') = some i
  dur : c.dur.lookup (dat b') = some i
  data : c.cur.data i = d
  synced : syncedLen c i = d.length
  lt : i < c.cur.next
  tmp_ne : ∀ j, c.cur.lookup (tmp b) = some j → j ≠ i

theorem Framed.step {b b' : String} {d : Bytes} {i : Nat} (ha : NamesApart b b') {c c' : CFS} {op : FOp}
    (hown : Own b op) (hs : Step c op c') (h : Framed b b' d i c) : Framed b b' d i c' := by
  -- `b'.dat` is not a name of `b`, so its current binding stays
  have hcur := (hs.lookup (hown.avoids ha.dat_dat ha.dat_tmp)).trans h.cur
  -- `b`'s writes and fsyncs go through `b.tmp`, whose inode is not `i`; a new inode is not `i` either
  cases hs with
  | nop => exact h
  | create hp =>
    exact { h with cur := hcur, data := (data_mk1 ..).trans h.data, lt := Nat.lt_succ_of_lt h.lt,
                   tmp_ne := fun j hj => (lookup_mk1_some hp hj).elim (fun e => e.2 ▸ Nat.ne_of_gt h.lt) (h.tmp_ne j) }
  | write hp bs =>
    exact { h with data := (data_append_ne _ _ _ _ (h.tmp_ne _ ((show _ = tmp b from hown) ▸ hp)).symm).trans h.data }
  | fsync hp =>
    refine { h with synced := ?_ }
    rw [syncedLen, List.lookup_cons_ite, if_neg (h.tmp_ne _ ((show _ = tmp b from hown) ▸ hp)).symm]; exact h.synced
  | rename hp q =>
    refine { h with cur := hcur, tmp_ne := fun j hj => ?_ }
    rcases lookup_mv_some hj with ⟨_, rfl⟩ | ⟨_, hj⟩
    · exact h.tmp_ne _ (hown.1 ▸ hp)
    · exact h.tmp_ne j hj
  | remove p => exact { h with cur := hcur, tmp_ne := fun j hj => h.tmp_ne j (lookup_remove_some hj).2 }
  | dirsync => exact { h with dur := h.cur }

theorem own_flushOps (b : String) (chunks : List Bytes) : ∀ op ∈ flushOps b chunks, Own b op := by
  intro op hop
  simp only [flushOps, List.mem_append, List.mem_cons, List.mem_map, List.not_mem_nil, or_false] at hop
  rcases hop with ((rfl | rfl) | ⟨ch, _, rfl⟩) | rfl | rfl | rfl <;> simp [Own]

theorem own_failedFlushOps (b : String) (chunks : List Bytes) :
    ∀ op ∈ failedFlushOps b chunks, Own b op := by
  intro op hop
  simp only [failedFlushOps, abortedFlushOps, List.mem_append, List.mem_cons, List.mem_map, List.not_mem_nil,
    or_false] at hop
  rcases hop with (((rfl | rfl) | ⟨ch, _, rfl⟩) | rfl | rfl) | rfl | rfl <;> simp [Own]

theorem final_frame_own (c : CFS) (b b' : String) (ops : List FOp) (d : Bytes)
    (hops : ∀ op ∈ ops, Own b op) (hf : FreshFor c b) (ha : NamesApart b b') (hfin : crash_Final b' d c) :
    crash_Final b' d (run c ops) := by
  obtain ⟨i, h1, h2, h3, h4⟩ := hfin
  have hJ : Framed b b' d i c :=
    ⟨h1, h2, h3, h4, hf.lookup_lt _ _ h1, fun j hj => by rw [hf.tmp_absent] at hj; cases hj⟩
  have h := List.foldlRecOn ops step hJ fun c hc op hop => hc.step ha (hops op hop) (step_sound c op)
  exact ⟨i, h.cur, h.dur, h.data, h.synced⟩

/-- Frame: while pointer `b` is being flushed (any prefix of its operations), a durable complete file of
    another pointer stays durable and complete. -/
theorem crash_Final_frame_flush (c : CFS) (b b' : String) (chunks : List Bytes) (d : Bytes) (n : Nat)
    (hb : dat b ≠ tmp b) (hf : FreshFor c b) (ha : NamesApart b b') (hfin : crash_Final b' d c) :
    crash_Final b' d (run c ((flushOps b chunks).take n)) := by
  have _ := hb
  exact final_frame_own c b b' _ d
    (fun op hop => own_flushOps b chunks op (List.mem_of_mem_take hop)) hf ha hfin

/-- The same for a failed flush (Abort, then TombstoneFile). -/
theorem crash_Final_frame_failed (c : CFS) (b b' : String) (chunks : List Bytes) (d : Bytes) (n : Nat)
    (hb : dat b ≠ tmp b) (hf : FreshFor c b) (ha : NamesApart b b') (hfin : crash_Final b' d c) :
    crash_Final b' d (run c ((failedFlushOps b chunks).take n)) := by
  have _ := hb
  exact final_frame_own c b b' _ d
    (fun op hop => own_failedFlushOps b chunks op (List.mem_of_mem_take hop)) hf ha hfin

/-- One flush of a history: base name, the chunks written, and whether it succeeded. -/
structure Flush where
  base : String
  chunks : List Bytes
  ok : Bool

def Flush.ops (f : Flush) : List FOp := if f.ok then flushOps f.base f.chunks else failedFlushOps f.base f.chunks

def historyOps (fs : List Flush) : List FOp := fs.flatMap Flush.ops

/-- The flushes of a history use pairwise disjoint names, each with `dat ≠ tmp`. -/
def GoodNames : List Flush → Prop
  | [] => True
  | f :: rest => dat f.base ≠ tmp f.base ∧ (∀ g ∈ rest, NamesApart f.base g.base ∧ NamesApart g.base f.base) ∧ GoodNames rest

theorem GoodNames.apart {f : Flush} {rest : List Flush} (h : GoodNames (f :: rest)) :
    ∀ g ∈ rest, NamesApart f.base g.base ∧ NamesApart g.base f.base := h.2.1
theorem GoodNames.tail {f : Flush} {rest : List Flush} (h : GoodNames (f :: rest)) : GoodNames rest := h.2.2

theorem historyOps_cons (f : Flush) (rest : List Flush) :
    historyOps (f :: rest) = f.ops ++ historyOps rest := by
  simp [historyOps]

theorem own_ops (f : Flush) : ∀ op ∈ f.ops, Own f.base op := by
  intro op hop
  unfold Flush.ops at hop
  split at hop
  · exact own_flushOps _ _ op hop
  · exact own_failedFlushOps _ _ op hop

/-- The induction hypothesis along a history: no name of a flush still to come is bound. -/
structure Pre (fs : List Flush) (c : CFS) : Prop where
  wf : WF c
  absent : ∀ g ∈ fs, Absent (dat g.base) c ∧ Absent (tmp g.base) c

theorem Pre.fresh (f : Flush) (rest : List Flush) (c : CFS) (h : Pre (f :: rest) c) :
    FreshFor c f.base :=
  have ⟨hd, ht⟩ := h.absent f List.mem_cons_self
  ⟨hd.cur, ht.cur, hd.dur, ht.dur, h.wf.cur.lookup_lt, h.wf.dur_lt, h.wf.cur.inode_lt, h.wf.cur.inodes_nodup⟩

theorem absent_run (p : String) (ops : List FOp) (hav : ∀ op ∈ ops, Avoids p op) (c : CFS) (h : Absent p c) :
    Absent p (run c ops) :=
  List.foldlRecOn ops step h fun c hc op hop => hc.step (step_sound c op) (hav op hop)

theorem Pre.next (f : Flush) (rest : List Flush) (c : CFS) (n : Nat) (hg : GoodNames (f :: rest))
    (h : Pre (f :: rest) c) : Pre rest (run c (f.ops.take n)) := by
  refine ⟨List.foldlRecOn _ step h.wf fun c hc op _ => hc.step (step_sound c op), ?_⟩
  intro g hgm
  have ha := (hg.apart g hgm).1
  have hops : ∀ op ∈ f.ops.take n, Own f.base op :=
    fun op hop => own_ops f op (List.mem_of_mem_take hop)
  have hab := h.absent g (List.mem_cons_of_mem _ hgm)
  exact ⟨absent_run _ _ (fun op hop => (hops op hop).avoids ha.dat_dat ha.dat_tmp) c hab.1,
    absent_run _ _ (fun op hop => (hops op hop).avoids ha.tmp_dat ha.tmp_tmp) c hab.2⟩

theorem final_of_flush (f : Flush) (c : CFS) (hf : FreshFor c f.base)
    (hok : f.ok = true) : crash_Final f.base f.chunks.flatten (run c f.ops) := by
  unfold Flush.ops
  rw [if_pos hok]
  exact (crash_all_spec _ _ c _ (crash_flush_all _ _ c hf)).2

theorem crash_failed_all (b : String) (chunks : List Bytes) (c : CFS) (hf : FreshFor c b) :
    crash_all (crash_Empty b) (Absent (dat b)) c (failedFlushOps b chunks) := by
  refine crash_all_append _ _ _ c _ _ (crash_abort_all b chunks c hf) ?_
  intro c' h'
  have h1 := crash_Empty_remove b (dat b) c' h'
  have h2 := crash_Empty_remove b (tmp b) _ h1
  refine ⟨h', h1, h2, ?_, ?_⟩
  · exact (lookup_remove2 ..).trans (if_pos (Or.inl rfl))
  · exact h'.1

theorem final_history (fs : List Flush) (b' : String) (d : Bytes) :
    ∀ (c : CFS) (n : Nat), GoodNames fs → Pre fs c → (∀ g ∈ fs, NamesApart g.base b') →
      crash_Final b' d c → crash_Final b' d (run c ((historyOps fs).take n)) := by
  induction fs with
  | nil => intro c n _ _ _ h; simpa [historyOps, run] using h
  | cons f rest ih =>
    intro c n hg hpre hap hfin
    rw [historyOps_cons, List.take_append, run_append]
    refine ih _ _ hg.tail (Pre.next f rest c n hg hpre) (fun g hg' => hap g (List.mem_cons_of_mem _ hg')) ?_
    exact final_frame_own c f.base b' _ d
      (fun op hop => own_ops f op (List.mem_of_mem_take hop))
      (Pre.fresh f rest c hpre) (hap f List.mem_cons_self) hfin

theorem absent_history (fs : List Flush) (p : String) (hp : ∀ g ∈ fs, p ≠ dat g.base ∧ p ≠ tmp g.base)
    (c : CFS) (n : Nat) (h : Absent p c) : Absent p (run c ((historyOps fs).take n)) := by
  refine absent_run p _ (fun op hop => ?_) c h
  obtain ⟨g, hg, hop⟩ := List.mem_flatMap.1 (List.mem_of_mem_take hop)
  exact (own_ops g op hop).avoids (hp g hg).1 (hp g hg).2

theorem final_of_completed (fs : List Flush) :
    ∀ (c : CFS) (k n : Nat) (f : Flush), GoodNames fs → Pre fs c →
      (historyOps (fs.take k)).length ≤ n → f ∈ fs.take k → f.ok = true →
      crash_Final f.base f.chunks.flatten (run c ((historyOps fs).take n)) := by
  induction fs with
  | nil => intro c k n f _ _ _ hmem; simp at hmem
  | cons g rest ih =>
    intro c k n f hg hpre hn hmem hok
    cases k with
    | zero => simp at hmem
    | succ k =>
      simp only [List.take_succ_cons] at hn hmem
      rw [historyOps_cons, List.length_append] at hn
      rw [historyOps_cons, List.take_append, run_append]
      have hfull : g.ops.take n = g.ops := List.take_of_length_le (by omega)
      have hpre' := Pre.next g rest c n hg hpre
      rw [hfull] at hpre' ⊢
      rcases List.mem_cons.1 hmem with rfl | hmem
      · refine final_history rest _ _ _ _ hg.tail hpre' ?_ ?_
        · intro g' hg'; exact (hg.apart g' hg').2
        · exact final_of_flush f c (Pre.fresh f rest c hpre) hok
      · exact ih _ k _ f hg.tail hpre' (by omega) hmem hok

theorem empty_of_failed (fs : List Flush) :
    ∀ (c : CFS) (n : Nat) (f : Flush), GoodNames fs → Pre fs c → f ∈ fs → f.ok = false →
      crash_Empty f.base (run c ((historyOps fs).take n)) := by
  induction fs with
  | nil => intro c n f _ _ hmem; simp at hmem
  | cons g rest ih =>
    intro c n f hg hpre hmem hok
    rw [historyOps_cons, List.take_append, run_append]
    have hpre' := Pre.next g rest c n hg hpre
    rcases List.mem_cons.1 hmem with rfl | hmem
    · have hops : f.ops = failedFlushOps f.base f.chunks := by simp [Flush.ops, hok]
      have hall := crash_all_spec _ _ c _ (crash_failed_all f.base f.chunks c (Pre.fresh f rest c hpre))
      by_cases hlt : n ≤ f.ops.length
      · have h0 : n - f.ops.length = 0 := by omega
        rw [h0]
        rw [hops]
        exact hall.1 n
      · have hfull : f.ops.take n = f.ops := List.take_of_length_le (by omega)
        rw [hfull]
        have habs : Absent (dat f.base) (run c f.ops) := by rw [hops]; exact hall.2
        have := absent_history rest (dat f.base)
          (fun g' hg' => ⟨(hg.apart g' hg').2.dat_dat, (hg.apart g' hg').2.dat_tmp⟩) _ (n - f.ops.length) habs
        exact ⟨this.dur, Or.inl this.cur⟩
    · exact ih _ _ f hg.tail hpre' hmem hok

theorem Pre.empty (fs : List Flush) : Pre fs {} :=
  ⟨⟨FSWF_empty, fun _ _ h => by cases h⟩, fun _ _ => ⟨⟨rfl, rfl⟩, ⟨rfl, rfl⟩⟩⟩

/-- A history for the examples of `Props/C15`: two successful flushes "a" and "c" with a failed flush "b"
    in between (7, 7 and 6 operations). -/
def crashH_exampleHistory : List Flush :=
  [⟨"a", [[1], [2]], true⟩, ⟨"b", [[3]], false⟩, ⟨"c", [[4, 5]], true⟩]

end BloomVerif.Crash
