/- From a matching row to passing filters. A row that matches a bloom and regex query satisfies the
   prune query on its own entries (`match_entries`): leaf by leaf for the bloom part, and for the regex
   part through the field guard, which is the compiled regex tree with every condition replaced by
   its field test (`guardOf_eq`). Filters that cover the entries then pass it (`filt_ge_entries`). -/
import BloomVerif.Model.Content
import BloomVerif.Lemmas.Guard
import BloomVerif.Lemmas.Flatten
namespace BloomVerif

theorem bloomCond_entries (tok : Str → List Str) (es : List Em) (c : BloomCond) :
    matchBloomCond tok es c = true → entryCond (entriesOf tok es) c = true := by
  refine ite_mono (fun h => ?_) (ite_mono (fun h => ?_) (ite_mono (fun h => ?_) id)) <;>
    obtain ⟨e, he, hp⟩ := List.any_eq_true.1 h
  · exact List.contains_iff_mem.2 (List.mem_map.2 ⟨e, he, by simpa using hp⟩)
  · exact List.contains_iff_mem.2 (List.mem_flatMap.2 ⟨e, he, List.contains_iff_mem.1 hp⟩)
  · simp only [Bool.and_eq_true, beq_iff_eq] at hp
    exact List.contains_iff_mem.2 (List.mem_flatMap.2 ⟨e, he,
      List.mem_map.2 ⟨c.Token, List.contains_iff_mem.1 hp.2, by rw [hp.1]⟩⟩)

/-- The bloom condition a regex condition is guarded by: its field path exists. -/
def fieldCond (c : RegexCond) : BloomCond := { Kind := "FIELD", Field := c.Field }

theorem regexCond_guard (tok : Str → List Str) (re : Str → Str → Bool) (row : J) (c : RegexCond)
    (h : matchRegexCond re (emissions row) c = true) :
    entryCond (rowEntries tok row) (fieldCond c) = true := by
  unfold matchRegexCond at h
  simp only [Bool.and_eq_true, List.any_eq_true, Bool.or_eq_true, beq_iff_eq] at h
  obtain ⟨hne, e, he, ⟨_, hp⟩, _⟩ := h
  have hF : c.Field ≠ [] := by
    intro h0; rw [h0] at hne; simp at hne
  have hmem : c.Field ∈ paths (emissions row) := by
    rcases hp with hp | hp
    · exact List.mem_map.2 ⟨e, he, hp⟩
    · obtain ⟨t, ht⟩ := List.isPrefixOf_iff_prefix.1 hp
      exact guard_root row e he c.Field t hF (by rw [← ht]; simp)
  simp only [fieldCond, entryCond, if_true, rowEntries]
  exact List.contains_iff_mem.2 hmem

mutual
  /-- `guardOf` and `compileRx` drop exactly the same nodes. -/
  theorem guardOf_eq : ∀ e : RegexExpr, guardOf e = (compileRx e).map (Expr.map fieldCond)
    | .mk ty cond ch => by
      simp only [guardOf, compileRx]
      split
      · rename_i h; subst h; cases cond <;> rfl
      · split
        · rename_i h; subst h; simp [Expr.map, guardL_eq ch]
        · split
          · rename_i h; subst h; simp [Expr.map, guardL_eq ch]
          · rfl
  theorem guardL_eq : ∀ es : List RegexExpr, guardL es = Expr.mapL fieldCond (compileRxL es)
    | [] => rfl
    | e :: es => by
      simp only [guardL, compileRxL, guardOf_eq e, guardL_eq es]
      cases compileRx e <;> rfl
end

theorem guard_any (l1 : RegexCond → Bool) (l2 : BloomCond → Bool)
    (hl : ∀ c, l1 c = true → l2 { Kind := "FIELD", Field := c.Field } = true) :
    ∀ ch : List RegexExpr, Expr.evalAny l1 (compileRxL ch) = true → Expr.evalAny l2 (guardL ch) = true := by
  intro ch h
  rw [guardL_eq, Expr.evalAny_map]
  exact Expr.evalAny_mono l1 _ (fun _ => True) (fun c _ => hl c) _ (forallL_true _) h

theorem guard_all (l1 : RegexCond → Bool) (l2 : BloomCond → Bool)
    (hl : ∀ c, l1 c = true → l2 { Kind := "FIELD", Field := c.Field } = true) :
    ∀ ch : List RegexExpr, Expr.evalAll l1 (compileRxL ch) = true → Expr.evalAll l2 (guardL ch) = true := by
  intro ch h
  rw [guardL_eq, Expr.evalAll_map]
  exact Expr.evalAll_mono l1 _ (fun _ => True) (fun c _ => hl c) _ (forallL_true _) h

theorem guardOf_sound (tok : Str → List Str) (re : Str → Str → Bool) (row : J) (rx : RegexExpr)
    (h : matchRegex re (emissions row) (some rx) = true) :
    Expr.evalOpt (entryCond (rowEntries tok row)) (guardOf rx) = true := by
  rw [guardOf_eq]
  cases hc : compileRx rx with
  | none => rfl
  | some e' =>
    rw [matchRegex, hc] at h
    show Expr.eval _ (Expr.map fieldCond e') = true
    rw [Expr.eval_map]
    exact Expr.evalOpt_mono' _ _ (regexCond_guard tok re row) (some e') h

/-- `AndBloomQueries` evaluates as the conjunction of its arguments, an absent one being true. -/
theorem evalOpt_andBloom (l : BloomCond → Bool) (a b : Option BloomExpr) :
    Expr.evalOpt l (andBloom a b) = (Expr.evalOpt l a && Expr.evalOpt l b) := by
  cases a <;> cases b <;> simp [andBloom, Expr.evalOpt, Expr.eval_mkAnd]

theorem match_entries (s : Sem) (q : Query) (r : Row) (h : rowMatches s q r = true) :
    Expr.evalOpt (entryCond (rowEntries s.tok r.json)) q.prune = true := by
  simp only [rowMatches, matchRow, Bool.and_eq_true] at h
  rw [Query.prune, pruneBloom, evalOpt_andBloom, Bool.and_eq_true]
  refine ⟨Expr.evalOpt_mono' _ _ (bloomCond_entries s.tok (emissions r.json)) q.bloom h.1, ?_⟩
  cases hx : q.regex with
  | none => rfl
  | some rx => exact guardOf_sound s.tok s.re r.json rx (hx ▸ h.2)

theorem testOpt_of_covers {t : Option (Str → Bool)} {l : List Str} {x : Str}
    (hc : FiltCoversList t l) (hx : l.contains x = true) : testOpt t x = true := by
  cases t with
  | none => rfl
  | some g => exact hc g rfl x (List.contains_iff_mem.1 hx)

theorem filtCond_of_entryCond (f : Filt) (en : Entries) (hc : FiltCovers f en) (c : BloomCond) :
    entryCond en c = true → filtCond f c = true :=
  ite_mono (testOpt_of_covers hc.1) (ite_mono (testOpt_of_covers hc.2.1) (ite_mono (testOpt_of_covers hc.2.2) id))

theorem filt_ge_entries (f : Filt) (en : Entries) (p : Option BloomExpr) (hc : FiltCovers f en)
    (h : Expr.evalOpt (entryCond en) p = true) : evalFilt f p = true :=
  Expr.evalOpt_mono' (entryCond en) (filtCond f) (filtCond_of_entryCond f en hc) p h

end BloomVerif
