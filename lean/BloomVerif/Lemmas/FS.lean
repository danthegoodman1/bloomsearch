/-
  The directory primitives (`remove`, `createExcl`, `rename`, `append`) as the refinement (C16) and the
  crash model (C15) both use them: the two names of a pointer, what a lookup and an inode's bytes are
  after each primitive, and that each keeps the directory well-formed.
-/
import BloomVerif.Model.FSStore
import BloomVerif.Lemmas.Assoc
namespace BloomVerif.FSStore

theorem dat_inj {a b : String} (h : dat a = dat b) : a = b := (String.append_left_inj ".dat").mp h
theorem tmp_inj {a b : String} (h : tmp a = tmp b) : a = b := (String.append_left_inj ".tmp").mp h

theorem dat_ne_tmp (a b : String) : dat a ≠ tmp b := by
  intro h
  have h' := congrArg (fun s => s.toList.getLast?) h
  simp [dat, tmp] at h'

/-- Well-formedness of the directory the refinement needs: inode numbers in use are below `next`,
    each inode has one data entry, distinct paths are bound to distinct inodes (no hard links), and
    every allocated inode number has a data entry. -/
def FSWF (fs : FS) : Prop :=
  (∀ p i, fs.lookup p = some i → i < fs.next) ∧ (∀ i, (fs.inodes.lookup i).isSome → i < fs.next) ∧
  (fs.inodes.map (·.1)).Nodup ∧ (fs.names.map (·.1)).Nodup ∧
  (∀ p q i, fs.lookup p = some i → fs.lookup q = some i → p = q) ∧
  (∀ i, i < fs.next → (fs.inodes.lookup i).isSome)

theorem FSWF.lookup_lt {fs : FS} (h : FSWF fs) : ∀ p i, fs.lookup p = some i → i < fs.next := h.1
theorem FSWF.inode_lt {fs : FS} (h : FSWF fs) : ∀ i, (fs.inodes.lookup i).isSome → i < fs.next := h.2.1
theorem FSWF.inodes_nodup {fs : FS} (h : FSWF fs) : (fs.inodes.map (·.1)).Nodup := h.2.2.1
theorem FSWF.names_nodup {fs : FS} (h : FSWF fs) : (fs.names.map (·.1)).Nodup := h.2.2.2.1
/-- No hard links. -/
theorem FSWF.inj {fs : FS} (h : FSWF fs) : ∀ p q i, fs.lookup p = some i → fs.lookup q = some i → p = q := h.2.2.2.2.1
theorem FSWF.entry {fs : FS} (h : FSWF fs) : ∀ i, i < fs.next → (fs.inodes.lookup i).isSome := h.2.2.2.2.2

theorem FSWF_empty : FSWF {} := by
  refine ⟨?_, ?_, List.nodup_nil, List.nodup_nil, ?_, ?_⟩
  · intro p i h; cases h
  · intro i h; cases h
  · intro p q i h; cases h
  · intro i h; cases h

theorem inodes_fresh {fs : FS} (h : ∀ i, (fs.inodes.lookup i).isSome → i < fs.next) {j : Nat} (hj : fs.next ≤ j) :
    fs.inodes.lookup j = none := by
  cases hh : fs.inodes.lookup j with
  | none => rfl
  | some v => exact absurd (h j (by rw [hh]; rfl)) (Nat.not_lt.2 hj)

theorem data_fresh {fs : FS} (h : ∀ i, (fs.inodes.lookup i).isSome → i < fs.next) {j : Nat} (hj : fs.next ≤ j) :
    fs.data j = [] := by
  rw [FS.data, inodes_fresh h hj]; rfl

theorem lookup_remove (fs : FS) (p q : String) :
    (fs.remove p).lookup q = if q = p then none else fs.lookup q :=
  (List.lookup_filter_key (fun k => k != p) fs.names q).trans (by by_cases h : q = p <;> simp [h, FS.lookup])

theorem lookup_remove_some {fs : FS} {p q : String} {i : Nat} (h : (fs.remove p).lookup q = some i) :
    q ≠ p ∧ fs.lookup q = some i := by
  rw [lookup_remove] at h
  split at h
  · cases h
  · exact ⟨‹_›, h⟩

theorem lookup_remove2 (fs : FS) (a b q : String) :
    ((fs.remove a).remove b).lookup q = if q = a ∨ q = b then none else fs.lookup q := by
  rw [lookup_remove, lookup_remove]
  by_cases hb : q = b
  · simp [hb]
  · by_cases ha : q = a <;> simp [ha, hb]

theorem remove_comm (fs : FS) (a b : String) : (fs.remove a).remove b = (fs.remove b).remove a := by
  simp only [FS.remove, List.filter_filter, Bool.and_comm]

theorem lookup_remove_ptr (fs : FS) (b : String) :
    ((fs.remove (dat b)).remove (tmp b)).lookup (dat b) = none ∧
    ((fs.remove (dat b)).remove (tmp b)).lookup (tmp b) = none ∧
    ∀ p, p ≠ dat b → p ≠ tmp b → ((fs.remove (dat b)).remove (tmp b)).lookup p = fs.lookup p :=
  ⟨(lookup_remove2 ..).trans (if_pos (Or.inl rfl)), (lookup_remove2 ..).trans (if_pos (Or.inr rfl)),
    fun _ hd ht => (lookup_remove2 ..).trans (if_neg (fun h => h.elim hd ht))⟩

theorem data_remove (fs : FS) (p : String) (j : Nat) : (fs.remove p).data j = fs.data j := rfl

theorem FSWF_remove {fs : FS} (h : FSWF fs) (p : String) : FSWF (fs.remove p) := by
  exact ⟨fun q i hq => h.lookup_lt q i (lookup_remove_some hq).2, h.inode_lt, h.inodes_nodup, List.keys_filter_nodup h.names_nodup _,
    fun q1 q2 i hq1 hq2 => h.inj q1 q2 i (lookup_remove_some hq1).2 (lookup_remove_some hq2).2, h.entry⟩

/-- `createExcl p` where it succeeds. -/
def FS.mk1 (fs : FS) (p : String) : FS :=
  { fs with names := fs.names ++ [(p, fs.next)], inodes := fs.inodes ++ [(fs.next, [])], next := fs.next + 1 }

theorem createExcl_some {fs fs1 : FS} {p : String} {i : Nat} (h : fs.createExcl p = some (fs1, i)) :
    fs.lookup p = none ∧ i = fs.next ∧ fs1 = fs.mk1 p := by
  unfold FS.createExcl at h
  split at h
  · cases h
  · rename_i hn
    simp only [Option.some.injEq, Prod.mk.injEq] at h
    exact ⟨hn, h.2.symm, h.1.symm⟩

theorem createExcl_none {fs : FS} {p : String} (h : fs.createExcl p = none) : ∃ i, fs.lookup p = some i := by
  unfold FS.createExcl at h
  split at h
  · rename_i i hi; exact ⟨i, hi⟩
  · cases h

theorem createExcl_eq {fs : FS} {p : String} (h : fs.lookup p = none) : fs.createExcl p = some (fs.mk1 p, fs.next) := by
  unfold FS.createExcl; rw [h]; rfl

theorem lookup_mk1 (fs : FS) (p q : String) (hp : fs.lookup p = none) :
    (fs.mk1 p).lookup q = if q = p then some fs.next else fs.lookup q :=
  List.lookup_snoc fs.names p q fs.next hp

theorem lookup_mk1_some {fs : FS} {p q : String} {i : Nat} (hp : fs.lookup p = none)
    (h : (fs.mk1 p).lookup q = some i) : (q = p ∧ i = fs.next) ∨ fs.lookup q = some i := by
  rw [lookup_mk1 _ _ _ hp] at h
  split at h
  · exact Or.inl ⟨‹_›, (Option.some.inj h).symm⟩
  · exact Or.inr h

theorem inodes_mk1 {fs : FS} (hf : fs.inodes.lookup fs.next = none) (p : String) (j : Nat) :
    (fs.mk1 p).inodes.lookup j = if j = fs.next then some [] else fs.inodes.lookup j :=
  List.lookup_snoc fs.inodes fs.next j [] hf

/-- The new inode is empty, which is what `data` says of an inode without entry. -/
theorem data_mk1 (fs : FS) (p : String) (j : Nat) : (fs.mk1 p).data j = fs.data j := by
  show ((fs.inodes ++ [(fs.next, [])]).lookup j).getD [] = (fs.inodes.lookup j).getD []
  rw [List.lookup_append, List.lookup_cons_ite]
  cases fs.inodes.lookup j with
  | some v => rfl
  | none => split <;> rfl

theorem FSWF_mk1 {fs : FS} (h : FSWF fs) (p : String) (hp : fs.lookup p = none) : FSWF (fs.mk1 p) := by
  have hfresh := inodes_fresh h.inode_lt (Nat.le_refl _)
  -- a binding of `fs.mk1 p` is the new one, to the fresh inode `fs.next`, or an old one, below `fs.next`
  have hlt : ∀ q i, (fs.mk1 p).lookup q = some i → (q = p ∧ i = fs.next) ∨ (fs.lookup q = some i ∧ i < fs.next) :=
    fun q i hq => (lookup_mk1_some hp hq).imp id (fun hq' => ⟨hq', h.lookup_lt q i hq'⟩)
  refine ⟨?_, ?_, List.keys_snoc_nodup h.inodes_nodup _ hfresh, List.keys_snoc_nodup h.names_nodup _ hp, ?_, ?_⟩
  · intro q i hq
    show i < fs.next + 1
    rcases hlt q i hq with ⟨_, rfl⟩ | ⟨_, hi⟩ <;> omega
  · intro i hi
    show i < fs.next + 1
    rw [inodes_mk1 hfresh] at hi
    split at hi
    · omega
    · have := h.inode_lt i hi; omega
  · intro q1 q2 i hq1 hq2
    rcases hlt q1 i hq1 with ⟨e1, i1⟩ | ⟨hq1, i1⟩ <;> rcases hlt q2 i hq2 with ⟨e2, i2⟩ | ⟨hq2, i2⟩
    · rw [e1, e2]
    · omega
    · omega
    · exact h.inj q1 q2 i hq1 hq2
  · intro i hi
    rw [inodes_mk1 hfresh]
    split
    · rfl
    · exact h.entry i (by have : i < fs.next + 1 := hi; omega)

/-- `rename a b` where it succeeds, `i` being the inode bound to `a`. -/
def FS.mv (fs : FS) (a b : String) (i : Nat) : FS :=
  { fs with names := (fs.names.filter (fun x => x.1 != a && x.1 != b)) ++ [(b, i)] }

theorem rename_eq {fs : FS} {a : String} {i : Nat} (h : fs.lookup a = some i) (b : String) :
    fs.rename a b = some (fs.mv a b i) := by
  unfold FS.rename; rw [h]; rfl

theorem lookup_mv (fs : FS) (a b q : String) (i : Nat) :
    (fs.mv a b i).lookup q = if q = b then some i else if q = a then none else fs.lookup q := by
  show ((fs.names.filter (fun x => x.1 != a && x.1 != b)) ++ [(b, i)]).lookup q = _
  rw [List.lookup_append, List.lookup_filter_key (fun k => k != a && k != b), List.lookup_cons_ite]
  by_cases hb : q = b
  · simp [hb]
  · by_cases ha : q = a <;> simp [ha, hb, FS.lookup]

theorem lookup_mv_some {fs : FS} {a b q : String} {i j : Nat} (h : (fs.mv a b i).lookup q = some j) :
    (q = b ∧ j = i) ∨ (q ≠ a ∧ fs.lookup q = some j) := by
  rw [lookup_mv] at h
  split at h
  · exact Or.inl ⟨‹_›, (Option.some.inj h).symm⟩
  · split at h
    · cases h
    · exact Or.inr ⟨‹_›, h⟩

theorem data_mv (fs : FS) (a b : String) (i j : Nat) : (fs.mv a b i).data j = fs.data j := rfl

theorem FSWF_mv {fs : FS} (h : FSWF fs) {a : String} {i : Nat} (ha : fs.lookup a = some i) (b : String) :
    FSWF (fs.mv a b i) := by
  refine ⟨?_, h.inode_lt, h.inodes_nodup, ?_, ?_, h.entry⟩
  · intro q j hq
    rcases lookup_mv_some hq with ⟨_, rfl⟩ | ⟨_, hq⟩
    · exact h.lookup_lt a _ ha
    · exact h.lookup_lt q j hq
  · refine List.keys_snoc_nodup (List.keys_filter_nodup h.names_nodup _) i ?_
    rw [List.lookup_filter_key (fun k => k != a && k != b)]
    simp
  · -- a path other than `a` bound to `i` would be a hard link to `a`'s inode
    intro q1 q2 j hq1 hq2
    rcases lookup_mv_some hq1 with ⟨e1, rfl⟩ | ⟨n1, hq1⟩ <;> rcases lookup_mv_some hq2 with ⟨e2, ej⟩ | ⟨n2, hq2⟩
    · rw [e1, e2]
    · exact absurd (h.inj _ _ _ hq2 ha) n2
    · exact absurd (h.inj _ _ _ hq1 (ej ▸ ha)) n1
    · exact h.inj q1 q2 j hq1 hq2

theorem lookup_append_fs (fs : FS) (i : Nat) (bs : Bytes) (p : String) :
    (fs.append i bs).lookup p = fs.lookup p := rfl

theorem inodes_append (fs : FS) (i j : Nat) (bs : Bytes) :
    (fs.append i bs).inodes.lookup j = if j = i then (fs.inodes.lookup j).map (· ++ bs) else fs.inodes.lookup j :=
  List.lookup_map_at i (· ++ bs) fs.inodes j

theorem isSome_inodes_append (fs : FS) (i j : Nat) (bs : Bytes) :
    ((fs.append i bs).inodes.lookup j).isSome = (fs.inodes.lookup j).isSome := by
  rw [inodes_append]
  split
  · exact Option.isSome_map
  · rfl

theorem data_append_ne (fs : FS) (i j : Nat) (bs : Bytes) (h : j ≠ i) :
    (fs.append i bs).data j = fs.data j := by
  rw [FS.data, inodes_append, if_neg h]; rfl

theorem data_append_self (fs : FS) (i : Nat) (bs : Bytes) (h : (fs.inodes.lookup i).isSome) :
    (fs.append i bs).data i = fs.data i ++ bs := by
  obtain ⟨v, hv⟩ := Option.isSome_iff_exists.1 h
  rw [FS.data, FS.data, inodes_append, if_pos rfl, hv]; rfl

theorem FSWF_append {fs : FS} (h : FSWF fs) (i : Nat) (bs : Bytes) : FSWF (fs.append i bs) := by
  refine ⟨h.lookup_lt, fun j hj => h.inode_lt j (isSome_inodes_append fs i j bs ▸ hj), ?_, h.names_nodup, h.inj,
    fun j hj => isSome_inodes_append fs i j bs ▸ h.entry j hj⟩
  exact (List.keys_map_at i (· ++ bs) fs.inodes).symm ▸ h.inodes_nodup

end BloomVerif.FSStore
