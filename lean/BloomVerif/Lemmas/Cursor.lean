/-
  The Results cursor (C20): `Inv` holds in every reachable state, by cases on the relation `Step`.
  The handle pool (C21): `Pool.Step` is `Pool.step` as a relation; `Pool.Inv` is kept by every operation the reader
  discipline allows, its handle-level part `HInv` surviving every status change by one lemma, `HInv.set`;
  `Step.frame` says which handles an operation touches.
  The query slots (C22): no event lets more workers hold a slot than the semaphore has (`step_held`).
-/
import BloomVerif.Model.Cursor
import BloomVerif.Model.Slots
import BloomVerif.Lemmas.Run
import BloomVerif.Lemmas.Assoc
namespace BloomVerif.Cursor

/-- Facts true of every reachable cursor state. The proofs call them, in this order,
    `doneFinal` (iteration over: finalized, pipeline exited, Next has returned false),
    `finalExited` (finalized: the pipeline has exited),
    `entryCancel` (a Next that began after the Query context ended saw the cancellation),
    `closedFinal` (after Close: finalized, internal context cancelled),
    `cleanNoFailure` (finalized with nil: nothing was recorded),
    `chanBound` (rowChan holds at most 4 batches). -/
def Inv (s : St) : Prop :=
  (s.iterDone = true → s.finalized = true ∧ s.workersDone = true ∧ s.nextFalse ≥ 1) ∧
  (s.finalized = true → s.workersDone = true) ∧
  (s.inNext = true → s.canceledAtEntry = true → s.sawCancel = true ∧ s.callerCanceled = true) ∧
  (s.closeCalls ≥ 1 → s.finalized = true ∧ s.internalCanceled = true) ∧
  (s.finalized = true → s.err = .clean → s.recorded = 0) ∧
  (s.chan ≤ 4)

theorem Inv.finalExited {s : St} (h : Inv s) : s.finalized = true → s.workersDone = true := h.2.1

theorem Inv.entryCancel {s : St} (h : Inv s) :
    s.inNext = true → s.canceledAtEntry = true → s.sawCancel = true ∧ s.callerCanceled = true := h.2.2.1

theorem joined_clean (n : Nat) : joined n = .clean ↔ n = 0 := by
  unfold joined; split <;> simp [*]

inductive Step (s : St) : Ev → St → Prop
  | record : s.workersDone = false → Step s .record { s with recorded := s.recorded + 1 }
  | deliver (rows : Nat) : s.workersDone = false → s.chan < 4 → rows ≠ 0 →
      Step s (.deliver rows) { s with chan := s.chan + 1, queue := s.queue ++ [rows] }
  | workersDone : s.workersDone = false → Step s .workersDone { s with workersDone := true }
  | cancelCaller : Step s .cancelCaller { s with callerCanceled := true }
  | propagate : s.callerCanceled = true → Step s .propagate { s with internalCanceled := true }
  | nextEnter : s.inNext = false →
      Step s .nextEnter
        { s with inNext := true, sawCancel := s.internalCanceled || s.callerCanceled,
                 internalCanceled := s.internalCanceled || s.callerCanceled, canceledAtEntry := s.callerCanceled }
  | nextFalseDone : s.inNext = true → s.iterDone = true →
      Step s .nextFalseDone { s with inNext := false, nextFalse := s.nextFalse + 1 }
  | nextRow : s.inNext = true → s.iterDone = false → s.sawCancel = false → 0 < s.pending →
      Step s .nextRow { s with inNext := false, pending := s.pending - 1 }
  | nextBatch : s.inNext = true → s.iterDone = false → s.sawCancel = false → s.pending = 0 → 0 < s.chan →
      Step s .nextBatch
        { s with inNext := false, chan := s.chan - 1, queue := s.queue.tail, pending := (s.queue.head?.getD 1) - 1 }
  | nextFalseClean : s.inNext = true → s.iterDone = false → s.sawCancel = false → s.pending = 0 → s.chan = 0 →
      s.workersDone = true → Step s .nextFalseClean (finish s (joined s.recorded))
  | nextFalseTerm : s.inNext = true → s.iterDone = false → s.internalCanceled = true → s.workersDone = true →
      Step s .nextFalseTerm (finish s (if s.callerCanceled then .canceled else joined s.recorded))
  | closeFirst : s.closeCalls = 0 → s.workersDone = true →
      Step s .close
        { s with closeCalls := 1, internalCanceled := true, finalized := true,
                 err := if s.finalized then s.err else (if s.callerCanceled then .canceled else joined s.recorded) }
  | closeAgain : s.closeCalls ≠ 0 → Step s .close { s with closeCalls := s.closeCalls + 1 }

theorem step_sound {s s' : St} {e : Ev} (hs : step s e = some s') : Step s e s' := by
  cases e <;> simp only [step] at hs
  case close =>
    by_cases h0 : s.closeCalls = 0
    · rw [if_pos h0] at hs
      by_cases hw : s.workersDone = true
      · rw [if_pos hw] at hs; cases hs; exact .closeFirst h0 hw
      · rw [if_neg hw] at hs; cases hs
    · rw [if_neg h0] at hs; cases hs; exact .closeAgain h0
  case cancelCaller => cases hs; exact .cancelCaller
  all_goals split at hs <;> cases hs
  all_goals constructor <;> simp_all <;> omega

/-- "First finalizer wins" keeps `cleanNoFailure`: the stored error stays, or the new one is checked. -/
theorem decided_clean (s : St) (e : Term) (h5 : s.finalized = true → s.err = .clean → s.recorded = 0)
    (he : e = .clean → s.recorded = 0) : (if s.finalized then s.err else e) = .clean → s.recorded = 0 := by
  split
  · exact h5 ‹_›
  · exact he

theorem termErr_clean (cc : Bool) (n : Nat) : (if cc then Term.canceled else joined n) = .clean → n = 0 := by
  split
  · intro h; cases h
  · exact (joined_clean n).1

/-- Each fact is kept on its own, except that `cleanNoFailure` leans on `finalExited`: once finalized
    the pipeline has exited, so nothing is recorded any more. -/
theorem inv_step {s s' : St} {e : Ev} (hi : Inv s) (hs : Step s e s') : Inv s' := by
  obtain ⟨doneFinal, finalExited, entryCancel, closedFinal, cleanNoFailure, chanBound⟩ := hi
  refine ⟨?_, ?_, ?_, ?_, ?_, ?_⟩
  · clear finalExited entryCancel closedFinal cleanNoFailure chanBound
    cases hs <;> first | assumption | (simp_all [finish]; try omega)
  · clear doneFinal entryCancel closedFinal cleanNoFailure chanBound
    cases hs <;> first | assumption | simp_all [finish]
  · clear doneFinal finalExited closedFinal cleanNoFailure chanBound
    cases hs <;> first | assumption | simp_all [finish]
  · clear doneFinal finalExited entryCancel cleanNoFailure chanBound
    cases hs
    case closeAgain h0 => exact fun _ => closedFinal (by omega)
    all_goals first | assumption | simp_all [finish]
  · clear doneFinal entryCancel closedFinal chanBound
    cases hs
    case nextFalseClean => exact fun _ => decided_clean s _ cleanNoFailure (joined_clean _).1
    case nextFalseTerm => exact fun _ => decided_clean s _ cleanNoFailure (termErr_clean _ _)
    case closeFirst => exact fun _ => decided_clean s _ cleanNoFailure (termErr_clean _ _)
    all_goals first | assumption | simp_all
  · clear doneFinal finalExited entryCancel closedFinal cleanNoFailure
    cases hs <;> first | assumption | (simp_all; try omega)

theorem iterates : Iterates step run :=
  ⟨fun _ => rfl, fun s e es => by cases h : step s e <;> simp [run, h]⟩

theorem reachable_inv (s : St) (h : Reachable s) : Inv s := by
  obtain ⟨tr, hr⟩ := h
  exact iterates.inv Inv (fun _ _ _ hi hs => inv_step hi (step_sound hs)) (by simp [Inv]) hr

theorem iterDone_step (s s' : St) (e : Ev) (h : s.iterDone = true) (hs : step s e = some s') :
    s'.iterDone = true ∧ e ≠ .nextRow ∧ e ≠ .nextBatch := by
  cases step_sound hs <;> simp_all

theorem finalized_step (s s' : St) (e : Ev) (h : s.finalized = true) (hs : step s e = some s') :
    s'.finalized = true ∧ s'.err = s.err := by
  cases step_sound hs <;> simp_all [finish]

/-- Holds from any state: the guards of the finalizing steps give all of it. -/
theorem err_correct_step (s s' : St) (e : Ev) (hf : s.finalized = false) (hs : step s e = some s')
    (hf' : s'.finalized = true) :
    (s'.err = .clean → s'.recorded = 0) ∧
    (e = .close → s.callerCanceled = true → s'.err = .canceled) ∧
    (e = .nextFalseTerm → s.callerCanceled = true → s'.err = .canceled) ∧
    (s.callerCanceled = false → s'.err = joined s'.recorded) ∧
    s'.workersDone = true := by
  cases step_sound hs <;> cases hcc : s.callerCanceled <;> simp_all [finish, joined_clean]

/-- After finalization nothing is recorded any more. -/
theorem no_record_after_final_aux (s : St) (hi : Inv s) (h : s.finalized = true) : step s .record = none := by
  have := hi.finalExited h
  simp [step, this]

end BloomVerif.Cursor

namespace BloomVerif.Pool

theorem lookup_setStatus (st : List (Nat × HStatus)) (h : Nat) (v : HStatus) (h' : Nat) :
    (setStatus st h v).lookup h' = if h' = h then some v else st.lookup h' :=
  List.lookup_upsert st h h' v

theorem lookup_closeOne_ne (st : List (Nat × HStatus)) (h h' : Nat) (hne : h' ≠ h) :
    (closeOne st h).lookup h' = st.lookup h' := by
  unfold closeOne
  split <;> simp [lookup_setStatus, hne]

theorem lookup_closeMany_not_mem (hs : List Nat) (st : List (Nat × HStatus)) (h' : Nat) (hn : h' ∉ hs) :
    (closeMany st hs).lookup h' = st.lookup h' :=
  List.foldlRecOn hs closeOne (motive := fun st' => st'.lookup h' = st.lookup h') rfl
    fun st' ih a ha => by rw [lookup_closeOne_ne st' a h' fun e => hn (e ▸ ha), ih]

theorem findEntry_some (files : List Entry) (p : Nat) (e : Entry) (h : findEntry files p = some e) :
    e ∈ files ∧ e.ptr = p :=
  ⟨List.mem_of_find?_eq_some h, by simpa using List.find?_some h⟩

theorem mem_idle_of_find {files : List Entry} {p h : Nat} {e : Entry} (he : findEntry files p = some e)
    (hm : h ∈ e.idle) : h ∈ files.flatMap (·.idle) :=
  List.mem_flatMap.2 ⟨e, (findEntry_some _ _ _ he).1, hm⟩

theorem findEntry_none (files : List Entry) (p : Nat) (h : findEntry files p = none) :
    ∀ x ∈ files, x.ptr ≠ p := by
  unfold findEntry at h
  simpa using h

/-- With distinct pointers `e` is the one entry at `p`: up to order, `dropEntry` takes it out … -/
theorem perm_dropEntry {fs : List Entry} {p : Nat} {e : Entry} (he : findEntry fs p = some e)
    (hP : (fs.map (·.ptr)).Nodup) : fs.Perm (e :: dropEntry fs p) := by
  induction fs with
  | nil => cases he
  | cons a t ih =>
    obtain ⟨ha, ht⟩ := List.nodup_cons.1 hP
    unfold findEntry at he ih
    unfold dropEntry at ih ⊢
    rw [List.find?_cons] at he
    rw [List.filter_cons]
    by_cases hp : a.ptr = p
    · simp only [hp, beq_self_eq_true, Option.some.injEq] at he
      subst he
      rw [if_neg (by simp [hp]), List.filter_eq_self.2 fun x hx => by
        simp only [bne_iff_ne]; exact fun hxp => ha (List.mem_map.2 ⟨x, hx, hxp.trans hp.symm⟩)]
    · rw [show (a.ptr == p) = false by simp [hp]] at he
      rw [if_pos (by simp [hp])]
      exact ((ih he ht).cons a).trans (.swap ..)

/-- … and `setEntry` puts `e'` in its place. -/
theorem perm_setEntry {fs : List Entry} {p : Nat} {e : Entry} (he : findEntry fs p = some e)
    (hP : (fs.map (·.ptr)).Nodup) (e' : Entry) (hp : e'.ptr = p) :
    (setEntry fs e').Perm (e' :: dropEntry fs p) := by
  obtain ⟨hm, rfl⟩ := findEntry_some _ _ _ he
  have hD : (dropEntry fs e.ptr).map (fun x => if x.ptr == e.ptr then e' else x) = dropEntry fs e.ptr :=
    (List.map_congr_left fun x hx => if_neg (by simpa [dropEntry] using (List.mem_filter.1 hx).2)).trans (List.map_id _)
  rw [setEntry, if_pos (List.any_eq_true.2 ⟨e, hm, by simp [hp]⟩), hp]
  have := (perm_dropEntry he hP).map fun x => if x.ptr == e.ptr then e' else x
  rwa [List.map_cons, hD, if_pos (by simp)] at this

/-- The handle-level part of the pool invariant: `L` is the list of all idle handles. `count` says at once that
    `L` has no repetition, that its members are idle and that every idle handle is a member. -/
structure HInv (L : List Nat) (st : List (Nat × HStatus)) (next : Nat) : Prop where
  count : ∀ h, L.count h = if st.lookup h = some .idle then 1 else 0
  lt_next : ∀ h v, st.lookup h = some v → h < next
  closed_once : ∀ h n, st.lookup h = some (.closed n) → n = 1

theorem HInv.perm {L L' : List Nat} {st : List (Nat × HStatus)} {n : Nat} (hp : L.Perm L') (hi : HInv L st n) :
    HInv L' st n :=
  ⟨fun h => hp.count_eq h ▸ hi.count h, hi.lt_next, hi.closed_once⟩

theorem HInv.idle {L : List Nat} {st : List (Nat × HStatus)} {n h : Nat} (hi : HInv L st n) (hm : h ∈ L) :
    st.lookup h = some .idle := by
  have := hi.count h
  split at this
  · assumption
  · exact absurd (List.count_pos_iff.2 hm) (by omega)

/-- Every status change of the pool takes one handle `h` from a status `u` to `v`. `HInv` survives it when `h`
    leaves the idle list if `u` is idle and enters it if `v` is, `v` is not a second close, and `h` is in range. -/
theorem HInv.set {L L' : List Nat} {st st' : List (Nat × HStatus)} {n n' h : Nat} {u : Option HStatus} {v : HStatus}
    (hi : HInv L st n) (hu : st.lookup h = u) (hlk : ∀ x, st'.lookup x = if x = h then some v else st.lookup x)
    (hv : ∀ k, v = .closed k → k = 1) (hh : h < n') (hn : n ≤ n')
    (hc : ∀ x, L'.count x + (if x = h ∧ u = some .idle then 1 else 0) =
      L.count x + (if x = h ∧ v = .idle then 1 else 0)) : HInv L' st' n' := by
  refine ⟨fun x => ?_, fun x w => ?_, fun x k => ?_⟩ <;> rw [hlk] <;> split
  · have := hc x
    simp only [‹x = h›, true_and, hi.count, hu, Option.some.injEq] at this ⊢
    omega
  · have := hc x
    simp only [‹¬x = h›, false_and, if_false, Nat.add_zero] at this
    rw [this, hi.count]
  · exact fun _ => ‹x = h› ▸ hh
  · exact fun hx => Nat.lt_of_lt_of_le (hi.lt_next x w hx) hn
  · exact fun hx => hv k (Option.some.inj hx)
  · exact hi.closed_once x k

theorem lookup_closeOne {st : List (Nat × HStatus)} {h : Nat} (hn : ∀ k, st.lookup h ≠ some (.closed k)) (x : Nat) :
    (closeOne st h).lookup x = if x = h then some (.closed 1) else st.lookup x := by
  unfold closeOne
  split
  · exact absurd ‹_› (hn _)
  · exact lookup_setStatus ..

theorem lookup_closeMany_idle (B : List Nat) (st : List (Nat × HStatus)) (h : Nat) (hnd : B.Nodup)
    (hidle : ∀ x ∈ B, st.lookup x = some .idle) :
    (closeMany st B).lookup h = if h ∈ B then some (.closed 1) else st.lookup h := by
  induction B generalizing st with
  | nil => rfl
  | cons a t ih =>
    obtain ⟨ha, ht⟩ := List.nodup_cons.1 hnd
    have h1 := lookup_closeOne (st := st) (h := a) (by simp [hidle a List.mem_cons_self])
    show (closeMany (closeOne st a) t).lookup h = _
    rw [ih _ ht fun x hx => by
      rw [h1, if_neg fun e : x = a => ha (e ▸ hx)]; exact hidle x (List.mem_cons_of_mem _ hx), h1]
    by_cases m : h ∈ t <;> simp [m]

/-- `closeMany` closes the idle handles of `B` one by one. -/
theorem HInv.closeMany {L B : List Nat} {st : List (Nat × HStatus)} {n : Nat} (hi : HInv (B ++ L) st n) :
    HInv L (closeMany st B) n := by
  induction B generalizing st with
  | nil => exact hi
  | cons a t ih =>
    have ha := hi.idle List.mem_cons_self
    exact ih (hi.set ha (lookup_closeOne (by simp [ha])) (by simp) (hi.lt_next _ _ ha) (Nat.le_refl _)
      fun x => by simp [List.count_cons, eq_comm (a := a)])

theorem setEntry_new (files : List Entry) (e : Entry) (h : ∀ x ∈ files, x.ptr ≠ e.ptr) :
    setEntry files e = files ++ [e] := by
  unfold setEntry
  rw [if_neg]
  simp only [List.any_eq_true, beq_iff_eq, not_exists, not_and]
  exact h

/-- Pool invariant: idle sets hold exactly idle handles, without repetition; nothing is closed twice.
    The first five conjuncts are `HInv` of the idle handles (`inv_iff`). The last one, pairwise distinct
    file pointers, is what lets `setEntry` and `dropEntry` touch exactly one entry. -/
def Inv (s : St) : Prop :=
  (s.files.flatMap (·.idle)).Nodup ∧
  (∀ h ∈ s.files.flatMap (·.idle), s.status.lookup h = some .idle) ∧
  (∀ h st, s.status.lookup h = some st → h < s.next) ∧
  (∀ h n, s.status.lookup h = some (.closed n) → n = 1) ∧
  (∀ h, s.status.lookup h = some .idle → h ∈ s.files.flatMap (·.idle)) ∧
  (s.closed = true → s.files = []) ∧
  (s.files.map (·.ptr)).Nodup

/-- Reader discipline: a handle is handed back (put / discard) only by the reader that holds it. -/
def Allowed (s : St) : Op → Prop
  | .put _ h => s.status.lookup h = some .lent
  | .discard h => s.status.lookup h = some .lent
  | _ => True

theorem inv_iff (s : St) : Inv s ↔ HInv (s.files.flatMap (·.idle)) s.status s.next ∧
    (s.closed = true → s.files = []) ∧ (s.files.map (·.ptr)).Nodup := by
  refine ⟨fun ⟨a, b, c, d, e, f, g⟩ => ⟨⟨fun h => by simp only [a.count, show h ∈ _ ↔ _ from ⟨b h, e h⟩], c, d⟩, f, g⟩,
    fun ⟨hH, f, g⟩ => ⟨List.nodup_iff_count.2 fun h => ?_, fun _ => hH.idle, hH.lt_next, hH.closed_once, fun h hi => ?_, f, g⟩⟩
  · rw [hH.count]; split <;> omega
  · exact List.count_pos_iff.1 (by rw [hH.count, if_pos hi]; exact Nat.one_pos)

theorem inv_init_aux : Inv {} := by
  simp [Inv]

/-- What `HInv` needs is left to the caller, in terms of the idle handles: `e.idle` and those of the other
    entries `D` before, `e'.idle` and `D` after. -/
theorem inv_setEntry {s : St} {p n n' : Nat} {e : Entry} (e' : Entry) {st st' : List (Nat × HStatus)}
    (he : findEntry s.files p = some e) (hp : e'.ptr = e.ptr) (hP : (s.files.map (·.ptr)).Nodup)
    (hC : s.closed = true → s.files = []) (hH : HInv (s.files.flatMap (·.idle)) st n)
    (hD : ∀ D, HInv (e.idle ++ D) st n → HInv (e'.idle ++ D) st' n') :
    HInv ((setEntry s.files e').flatMap (·.idle)) st' n' ∧
    (s.closed = true → setEntry s.files e' = []) ∧ ((setEntry s.files e').map (·.ptr)).Nodup := by
  have p1 := perm_dropEntry he hP
  have p2 := perm_setEntry he hP e' (hp.trans (findEntry_some _ _ _ he).2)
  exact ⟨(hD _ (hH.perm (p1.flatMap_right _))).perm (p2.flatMap_right _).symm, (fun h => by rw [hC h] at he; cases he),
    ((p2.map _).trans (by rw [List.map_cons, hp]; exact (p1.map _).symm)).nodup_iff.2 hP⟩

/-- `step` arm by arm. `lend` takes the handle put back last: `e.idle = rest ++ [h]` is the model's
    `e.idle.reverse = h :: rest.reverse`. -/
inductive Step (s : St) : Op → St → Option Nat → Prop
  | retainClosed (p : Nat) : s.closed = true → Step s (.retain p) s none
  | retainOld (p : Nat) (e : Entry) : s.closed = false → findEntry s.files p = some e →
      Step s (.retain p) { s with files := setEntry s.files { e with refs := e.refs + 1 } } none
  | retainNew (p : Nat) : s.closed = false → findEntry s.files p = none →
      Step s (.retain p) { s with files := setEntry s.files ⟨p, 1, []⟩ } none
  | releaseAbsent (p : Nat) : findEntry s.files p = none → Step s (.release p) s none
  | releaseKeep (p : Nat) (e : Entry) : findEntry s.files p = some e → 1 < e.refs →
      Step s (.release p) { s with files := setEntry s.files { e with refs := e.refs - 1 } } none
  | releaseLast (p : Nat) (e : Entry) : findEntry s.files p = some e → e.refs ≤ 1 →
      Step s (.release p) { s with files := dropEntry s.files p, status := closeMany s.status e.idle } none
  | acquireClosed (p : Nat) : s.closed = true → Step s (.acquire p) s none
  | lend (p : Nat) (e : Entry) (rest : List Nat) (h : Nat) : s.closed = false → findEntry s.files p = some e →
      e.idle = rest ++ [h] →
      Step s (.acquire p)
        { s with files := setEntry s.files { e with idle := rest }, status := setStatus s.status h .lent } (some h)
  | openNew (p : Nat) : s.closed = false → (∀ e, findEntry s.files p = some e → e.idle = []) →
      Step s (.acquire p)
        { s with status := setStatus s.status s.next .lent, next := s.next + 1,
                 handlePtr := s.handlePtr ++ [(s.next, p)] } (some s.next)
  | putClose (p h : Nat) : (∀ e, findEntry s.files p = some e → s.closed = true ∨ e.refs = 0) →
      Step s (.put p h) { s with status := closeOne s.status h } none
  | putIdle (p h : Nat) (e : Entry) : findEntry s.files p = some e → s.closed = false → e.refs ≠ 0 →
      Step s (.put p h)
        { s with files := setEntry s.files { e with idle := e.idle ++ [h] }, status := setStatus s.status h .idle } none
  | discard (h : Nat) : Step s (.discard h) { s with status := closeOne s.status h } none
  | closeAll :
      Step s .closeAll
        { s with closed := true, files := [], status := closeMany s.status (s.files.flatMap (·.idle)) } none

theorem step_sound (s : St) (op : Op) : Step s op (step s op).1 (step s op).2 := by
  cases op <;> simp only [step] <;> repeat' split
  all_goals constructor <;> first | assumption | simp_all

theorem Step.inv {s s' : St} {op : Op} {r : Option Nat} (hs : Step s op s' r) (hi : Inv s)
    (ha : Allowed s op) : Inv s' := by
  rw [inv_iff] at hi ⊢
  obtain ⟨hH, hC, hP⟩ := hi
  cases hs with
  | retainClosed | releaseAbsent | acquireClosed => exact ⟨hH, hC, hP⟩
  | retainOld p e _ he | releaseKeep p e he =>
    exact inv_setEntry _ he rfl hP hC hH fun _ => id
  | retainNew p hcl he =>
    have hne := findEntry_none _ _ he
    rw [setEntry_new s.files ⟨p, 1, []⟩ hne]
    refine ⟨by simpa using hH, fun h => absurd h (Bool.eq_false_iff.1 hcl),
      ((List.perm_append_singleton _ _).map _).nodup_iff.2 (List.nodup_cons.2 ⟨fun hm => ?_, hP⟩)⟩
    obtain ⟨x, hx, hp⟩ := List.mem_map.1 hm
    exact hne x hx hp
  | releaseLast p e he =>
    exact ⟨(hH.perm ((perm_dropEntry he hP).flatMap_right _)).closeMany,
      fun h => by rw [hC h]; rfl, hP.sublist (List.filter_sublist.map _)⟩
  | lend p e rest h _ he hidle =>
    refine inv_setEntry { e with idle := rest } he rfl hP hC hH fun D hD => ?_
    have hh := hD.idle (h := h) (by simp [hidle])
    exact hD.set hh (lookup_setStatus _ _ _) (by simp) (hD.lt_next _ _ hh) (Nat.le_refl _) fun x => by
      simp [hidle, List.count_append, List.count_cons, eq_comm (a := h)]; omega
  | openNew =>
    have hn := Option.eq_none_iff_forall_ne_some.2 fun v hl => Nat.lt_irrefl _ (hH.lt_next _ v hl)
    exact ⟨hH.set hn (lookup_setStatus _ _ _) (by simp) (Nat.lt_succ_self _) (Nat.le_succ _) (by simp), hC, hP⟩
  | putClose | discard =>
    have ha : s.status.lookup _ = some .lent := ha
    exact ⟨hH.set ha (lookup_closeOne (by simp [ha])) (by simp) (hH.lt_next _ _ ha) (Nat.le_refl _) (by simp), hC, hP⟩
  | putIdle p h e he =>
    exact inv_setEntry { e with idle := e.idle ++ [h] } he rfl hP hC hH fun D hD =>
      hD.set ha (lookup_setStatus _ _ _) (by simp) (hH.lt_next _ _ ha) (Nat.le_refl _) fun x => by
        simp [List.count_append, List.count_cons, eq_comm (a := h)]; omega
  | closeAll => exact ⟨HInv.closeMany (L := []) (by simpa using hH), by simp, by simp⟩

/-- An operation changes the status of idle handles, of the fresh handle and of the one handed back, and of
    no other. -/
theorem Step.frame {s s' : St} {op : Op} {r : Option Nat} (hs : Step s op s' r) (x : Nat)
    (hidle : x ∉ s.files.flatMap (·.idle)) (hnext : x ≠ s.next) (hd : op ≠ .discard x) (hp : ∀ p, op ≠ .put p x) :
    s'.status.lookup x = s.status.lookup x := by
  cases hs with
  | releaseLast p e he => exact lookup_closeMany_not_mem _ _ _ fun hx => hidle (mem_idle_of_find he hx)
  | closeAll => exact lookup_closeMany_not_mem _ _ _ hidle
  | lend p e rest h _ he hi =>
    exact (lookup_setStatus _ _ _ _).trans (if_neg fun hx => hidle (mem_idle_of_find he (by simp [hi, hx])))
  | openNew => exact (lookup_setStatus _ _ _ _).trans (if_neg hnext)
  | putClose p => exact lookup_closeOne_ne _ _ _ fun hx : x = _ => hp p (hx ▸ rfl)
  | putIdle p => exact (lookup_setStatus _ _ _ _).trans (if_neg fun hx : x = _ => hp p (hx ▸ rfl))
  | discard => exact lookup_closeOne_ne _ _ _ fun hx : x = _ => hd (hx ▸ rfl)
  | _ => rfl

theorem inv_step (s : St) (op : Op) (hi : Inv s) (ha : Allowed s op) : Inv (step s op).1 :=
  (step_sound s op).inv hi ha

end BloomVerif.Pool

namespace BloomVerif.Slots

theorem held_set_le (l : List Phase) (i : Nat) (p q : Phase) (h : l[i]? = some q) :
    ((l.set i p).filter held).length ≤ (l.filter held).length + (if held p && !held q then 1 else 0) := by
  induction l generalizing i with
  | nil => simp at h
  | cons a t ih =>
    cases i with
    | zero =>
      simp at h; subst h
      simp only [List.set_cons_zero, List.filter_cons]
      cases held a <;> cases held p <;> simp
    | succ j =>
      have := ih j (by simpa using h)
      simp only [List.set_cons_succ, List.filter_cons]
      cases held a <;> simp at this ⊢ <;> omega

theorem step_held (s s' : St) (e : Ev) (h : heldCount s ≤ s.cap) (hs : step s e = some s') :
    heldCount s' ≤ s'.cap ∧ s'.cap = s.cap := by
  cases e <;> simp only [step] at hs <;> (try split at hs) <;> cases hs
  case spawn => simp [heldCount] at h ⊢; exact h
  case acquire i hg =>
    simp only [Bool.and_eq_true, decide_eq_true_eq] at hg
    exact ⟨Nat.le_trans (held_set_le s.workers i .working _ hg.1) (by simp [held]; exact hg.2), rfl⟩
  all_goals
    rename_i i hg
    exact ⟨Nat.le_trans (held_set_le s.workers i _ _ hg) (by simpa [held, heldCount] using h), rfl⟩

theorem iterates : Iterates step run :=
  ⟨fun _ => rfl, fun s e es => by cases h : step s e <;> simp [run, h]⟩

theorem reading_le_held (s : St) : readingCount s ≤ heldCount s := by
  simp only [readingCount, heldCount, ← List.countP_eq_length_filter]
  exact List.countP_mono_left fun x _ hx => by simp_all [held]

end BloomVerif.Slots
