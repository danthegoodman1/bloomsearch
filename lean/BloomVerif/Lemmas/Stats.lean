/- What `Results.Stats` adds up to: the accumulation of the per-block entries, as explicit sums (C23). -/
import BloomVerif.Model.Stats
namespace BloomVerif.Stats

theorem totals_eq_sums (es : List Entry) (t : Totals) :
    es.foldl addEntry t =
      { rowsScanned := t.rowsScanned + ((es.filter (!·.skipped)).map (·.rowsProcessed)).sum,
        bytesScanned := t.bytesScanned + ((es.filter (!·.skipped)).map (·.bytesProcessed)).sum,
        blocksProcessed := t.blocksProcessed + (es.filter (!·.skipped)).length,
        blocksSkipped := t.blocksSkipped + (es.filter (·.skipped)).length } := by
  induction es generalizing t with
  | nil => simp
  | cons e es ih =>
    simp only [List.foldl_cons]
    rw [ih]
    unfold addEntry
    cases h : e.skipped <;> simp [h] <;> omega

end BloomVerif.Stats
