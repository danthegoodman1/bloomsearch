/-
  The pipeline's invariants, for every reachable state (all event sequences). `Step` restates the
  executable `step` as a relation, one constructor per enabled arm with its guards as hypotheses, and
  every invariant is checked by cases on it. Conservation is a ledger (`Ledger`): an event moves ids from one
  place to another, which its step proof checks by counting. `InvCore` asks nothing of the configuration; the
  size bounds (`InvSize`) need `0 < maxRows`.
-/
import BloomVerif.Model.Pipeline
import BloomVerif.Lemmas.Run
namespace BloomVerif.Pipeline

def unanswered (s : St) : List Nat := s.accepted.filter (fun a => !(answeredIds s).contains a)

/-- Conservation and FIFO: every accepted batch is in exactly one place, the chain (worker ++ flushChan ++
    parked request ++ actor buffer ++ ingestChan) or the answers, and the chain is in acceptance order. -/
structure Ledger (s : St) : Prop where
  places : (chain s ++ answeredIds s).Perm s.accepted
  order : (chain s).Sublist s.accepted
  fresh : s.accepted.Nodup

structure InvSize (c : Cfg) (s : St) : Prop where
  ingest : s.ingestQ.length ≤ c.ingestCap
  rows : s.mustFlush = false → s.buffered.length ≤ s.bufferedRows ∧ s.bufferedRows < c.maxRows
  buffered : s.buffered.length ≤ c.maxRows
  pending : (optWaiters s.pending).length ≤ c.maxRows
  flushQ : (optWaiters s.flushQ).length ≤ c.maxRows
  worker : (workerWaiters s.worker).length ≤ c.maxRows

structure InvLife (s : St) : Prop where
  actorDone : s.actorExited = true →
    s.started = true ∧ s.stopped = true ∧ s.ingestQ = [] ∧ s.buffered = [] ∧ s.pending = none ∧ s.mustFlush = false
  workerDone : s.workerExited = true → s.actorExited = true ∧ s.flushQ = none ∧ s.worker = none
  errCancelled : s.stopReturned = some false → s.flushCancelled = true
  retStopped : s.stopReturned.isSome = true → s.stopped = true
  deadlineArmed : s.deadlineFired = true → s.stopCalled = true
  unstartedIdle : s.started = false →
    s.buffered = [] ∧ s.pending = none ∧ s.flushQ = none ∧ s.worker = none ∧ s.mustFlush = false ∧ s.actorExited = false
  nilDrained : s.stopReturned = some true →
    (s.started = true ∧ s.actorExited = true ∧ s.workerExited = true) ∨ (s.started = false ∧ s.ingestQ = [])

/-- No queued request is `rows 0` (`accept` rejects it); this is what makes `InvSize` inductive across
    `actorRecv`. -/
def RowsPos (s : St) : Prop := ∀ r ∈ s.ingestQ, r.kind ≠ .rows 0

structure InvCore (s : St) : Prop where
  ledger : Ledger s
  life : InvLife s
  rowsPos : RowsPos s

theorem Ledger.answered {s : St} (h : Ledger s) : (answeredIds s).Nodup ∧ ∀ a ∈ answeredIds s, a ∈ s.accepted :=
  ⟨(List.nodup_append.1 (h.places.nodup_iff.2 h.fresh)).2.1, fun _ ha => h.places.subset (List.mem_append_right _ ha)⟩

/-- Filtering the answered ids out of both sides of `places` leaves a permutation between the chain and the
    unanswered batches; by `order` the first is also a sublist of the second, so they are equal. -/
theorem Ledger.chain_eq {s : St} (h : Ledger s) : chain s = unanswered s := by
  have hnd := (List.nodup_append.1 (h.places.nodup_iff.2 h.fresh)).2.2
  have hc : (chain s).filter (fun a => !(answeredIds s).contains a) = chain s :=
    List.filter_eq_self.2 fun a ha => by simpa using fun hm => hnd a ha a hm rfl
  have ha : (answeredIds s).filter (fun a => !(answeredIds s).contains a) = [] :=
    List.filter_eq_nil_iff.2 fun a ha => by simp [ha]
  have hp := h.places.filter (fun a => !(answeredIds s).contains a)
  rw [List.filter_append, hc, ha, List.append_nil] at hp
  exact (hc ▸ h.order.filter _).eq_of_length hp.length_eq

/-- A step that accepts nothing keeps the ledger if it only moves ids, and takes them only out of the chain. -/
theorem Ledger.move {s s' : St} (h : Ledger s) (hacc : s'.accepted = s.accepted)
    (hp : (chain s' ++ answeredIds s').Perm (chain s ++ answeredIds s)) (hsub : (chain s').Sublist (chain s)) :
    Ledger s' :=
  ⟨hacc ▸ hp.trans h.places, hacc ▸ hsub.trans h.order, hacc ▸ h.fresh⟩

theorem Ledger.silent {s s' : St} (h : Ledger s) (hacc : s'.accepted = s.accepted)
    (hans : s'.answered = s.answered) (hch : chain s' = chain s) : Ledger s' :=
  h.move hacc (by rw [hch, answeredIds, hans]; exact .refl _) (hch ▸ .refl _)

def ActorReady (s : St) : Prop :=
  s.started = true ∧ s.actorExited = false ∧ s.mustFlush = false ∧ s.pending = none

inductive Step (c : Cfg) (s : St) : Ev → St → Prop
  | startNoop : s.started = true ∨ s.stopped = true → Step c s .start s
  | start : s.started = false → s.stopped = false → Step c s .start { s with started := true }
  | accept (r : Req) : s.stopped = false → s.ingestQ.length < c.ingestCap → r.id ∉ s.accepted →
      r.kind ≠ .rows 0 →
      Step c s (.accept r) { s with accepted := s.accepted ++ [r.id], ingestQ := s.ingestQ ++ [r] }
  | recvEmpty (id : Nat) (rest : List Req) : ActorReady s → s.ingestQ = ⟨id, .empty⟩ :: rest →
      Step c s (.actorRecv id) { s with ingestQ := rest, answered := s.answered ++ [(id, true)] }
  | recvBad (id : Nat) (rest : List Req) : ActorReady s → s.ingestQ = ⟨id, .bad⟩ :: rest →
      Step c s (.actorRecv id) { s with ingestQ := rest, answered := s.answered ++ [(id, false)] }
  | recvRows (id n : Nat) (rest : List Req) : ActorReady s → s.ingestQ = ⟨id, .rows n⟩ :: rest →
      Step c s (.actorRecv id)
        { s with ingestQ := rest, buffered := s.buffered ++ [id], bufferedRows := s.bufferedRows + n,
                 mustFlush := decide (s.bufferedRows + n ≥ c.maxRows) }
  | recvForce (id : Nat) (rest : List Req) : ActorReady s → s.ingestQ = ⟨id, .force⟩ :: rest →
      Step c s (.actorRecv id) { s with ingestQ := rest, buffered := s.buffered ++ [id], mustFlush := true }
  | flushTrigger : s.started = true → s.actorExited = false → s.pending = none → s.buffered ≠ [] →
      Step c s .flushTrigger
        { s with pending := some ⟨s.buffered, decide (s.bufferedRows > 0)⟩, buffered := [],
                 bufferedRows := 0, mustFlush := false }
  | enqueued (r : FlushReq) : s.pending = some r → s.flushQ = none →
      Step c s .enqueued { s with pending := none, flushQ := some r }
  | enqueueAbandoned (r : FlushReq) : s.pending = some r → s.flushCancelled = true →
      Step c s .enqueueAbandoned { s with pending := none, answered := s.answered ++ fail r.waiters }
  | workerTake (r : FlushReq) : s.workerExited = false → s.worker = none → s.flushQ = some r →
      Step c s .workerTake { s with flushQ := none, worker := some (r, false) }
  | flushAbandon (r : FlushReq) : s.worker = some (r, false) → s.flushCancelled = true →
      Step c s .flushAbandon { s with worker := none, answered := s.answered ++ fail r.waiters }
  | flushBegin (r : FlushReq) : s.worker = some (r, false) → s.flushCancelled = false →
      Step c s .flushBegin { s with worker := some (r, true) }
  | flushDone (ok : Bool) (r : FlushReq) : s.worker = some (r, true) →
      Step c s (.flushDone ok)
        { s with worker := none, answered := s.answered ++ r.waiters.map (fun w => (w, ok)),
                 committed := if ok && r.hasData then s.committed ++ r.waiters else s.committed }
  | stopBegin : Step c s .stopBegin { s with stopCalled := true }
  | stopCall : s.stopCalled = true → Step c s .stopCall { s with stopped := true }
  | deadline : s.stopCalled = true → Step c s .deadline { s with deadlineFired := true }
  | afterFunc : s.deadlineFired = true → Step c s .afterFunc { s with flushCancelled := true }
  | stopDrain : s.stopped = true → s.started = false →
      Step c s .stopDrain { s with ingestQ := [], answered := s.answered ++ fail (s.ingestQ.map (·.id)) }
  | actorExit : ActorReady s → s.stopped = true → s.ingestQ = [] → s.buffered = [] →
      Step c s .actorExit { s with actorExited := true }
  | workerExit : s.actorExited = true → s.workerExited = false → s.flushQ = none → s.worker = none →
      Step c s .workerExit { s with workerExited := true }
  | stopRetNil : s.stopped = true → s.stopReturned = none →
      (s.started = true ∧ s.actorExited = true ∧ s.workerExited = true) ∨ (s.started = false ∧ s.ingestQ = []) →
      Step c s (.stopRet true) { s with stopReturned := some true }
  | stopRetErr : s.stopped = true → s.stopReturned = none → s.deadlineFired = true →
      Step c s (.stopRet false) { s with stopReturned := some false, flushCancelled := true }

theorem step_sound {c : Cfg} {s s' : St} {e : Ev} (hs : step c s e = some s') : Step c s e s' := by
  cases e <;> simp only [step] at hs
  case flushDone ok =>
    split at hs <;> cases hs
    exact .flushDone ok _ ‹_›
  case actorRecv id =>
    split at hs
    · contradiction
    rename_i hg
    split at hs
    · contradiction
    rename_i r rest hq
    split at hs
    · contradiction
    rename_i hid
    obtain ⟨rid, k⟩ := r
    have hg : ActorReady s := by simpa [ActorReady, and_assoc] using hg
    have hid : rid = id := by simpa using hid
    subst hid
    cases k <;> cases hs
    · exact .recvRows _ _ _ hg hq
    · exact .recvEmpty _ _ hg hq
    · exact .recvBad _ _ hg hq
    · exact .recvForce _ _ hg hq
  case stopRet ok =>
    cases ok <;> (repeat' split at hs) <;> try contradiction
    all_goals cases hs; constructor <;> simp_all [and_assoc]
  all_goals (repeat' split at hs) <;> try contradiction
  all_goals cases hs; constructor <;> simp_all [ActorReady]

/-- Each field is kept on its own, with two exceptions: `workerDone` leans on `actorDone`, which rules
    out `enqueued` after the actor's exit, and `nilDrained` on `retStopped`, which rules out `accept`.
    Only the fields a proof names are in its context; that keeps `simp_all` cheap. -/
theorem life_step {c : Cfg} {s s' : St} {e : Ev} (h : InvLife s) (hs : Step c s e s') : InvLife s' where
  actorDone := by
    have := h.actorDone; clear h
    cases hs <;> first | assumption | simp_all [ActorReady]
  workerDone := by
    have := h.actorDone; have := h.workerDone; clear h
    cases hs <;> first | assumption | simp_all [ActorReady]
  errCancelled := by
    have := h.errCancelled; clear h
    cases hs <;> first | assumption | simp_all
  retStopped := by
    have := h.retStopped; clear h
    cases hs <;> first | assumption | simp_all
  deadlineArmed := by
    have := h.deadlineArmed; clear h
    cases hs <;> first | assumption | simp_all
  unstartedIdle := by
    have := h.unstartedIdle; clear h
    cases hs <;> first | assumption | simp_all [ActorReady]
  nilDrained := by
    have := h.retStopped; have := h.nilDrained; clear h
    cases hs <;> first | assumption | simp_all [ActorReady]

theorem rowsPos_step {c : Cfg} {s s' : St} {e : Ev} (h : RowsPos s) (hs : Step c s e s') : RowsPos s' := by
  cases hs
  case accept r _ _ _ hr =>
    intro r' hr'
    rcases List.mem_append.1 hr' with hm | hm
    · exact h r' hm
    · rw [List.mem_singleton.1 hm]; exact hr
  all_goals first | exact h | (intro r hr; apply h; simp_all)

/-- The bound travels down the pipeline: `buffered` comes from `rows` (which needs `RowsPos`), `pending`
    from `buffered`, `flushQ` from `pending`, `worker` from `flushQ`. -/
theorem size_step {c : Cfg} (hc : 0 < c.maxRows) {s s' : St} {e : Ev} (h : InvSize c s)
    (hpos : RowsPos s) (hs : Step c s e s') : InvSize c s' where
  ingest := by
    have := h.ingest; clear h hpos
    cases hs <;> first | assumption | (simp_all; try omega)
  rows := by
    have := h.rows; clear h
    cases hs
    case recvRows id n rest hg hq =>
      have : n ≠ 0 := fun hn => hpos ⟨id, .rows n⟩ (by simp [hq]) (by rw [hn])
      simp_all [ActorReady]; omega
    all_goals first | assumption | simp_all
  buffered := by
    have := h.rows; have := h.buffered; clear h hpos
    cases hs <;> first | assumption | (simp_all [ActorReady]; try omega)
  pending := by
    have := h.buffered; have := h.pending; clear h hpos
    cases hs <;> first | assumption | simp_all [optWaiters]
  flushQ := by
    have := h.pending; have := h.flushQ; clear h hpos
    cases hs <;> first | assumption | simp_all [optWaiters]
  worker := by
    have := h.flushQ; have := h.worker; clear h hpos
    cases hs <;> first | assumption | simp_all [optWaiters, workerWaiters]

theorem ledger_step {c : Cfg} {s s' : St} {e : Ev} (h : Ledger s) (hs : Step c s e s') : Ledger s' := by
  cases hs
  case accept r _ _ hfresh _ =>
    have hc : chain { s with accepted := s.accepted ++ [r.id], ingestQ := s.ingestQ ++ [r] } = chain s ++ [r.id] := by
      simp [chain]
    refine ⟨?_, hc ▸ h.order.append (.refl _),
      (List.perm_append_singleton _ _).nodup_iff.2 (List.nodup_cons.2 ⟨hfresh, h.fresh⟩)⟩
    have := h.places
    simp only [hc, answeredIds, List.perm_iff_count, List.count_append] at this ⊢
    intro a; have := this a; omega
  -- a stage, or the head of the ingest channel, goes to the answers: count each id on both sides
  case recvEmpty | recvBad | enqueueAbandoned | flushAbandon | flushDone | stopDrain =>
    refine h.move rfl ?_ ?_ <;> clear h
    · simp only [chain, answeredIds, fail, optWaiters, workerWaiters, *, List.map_append, List.map_map,
        List.map_cons, List.map_nil, Function.comp_def, List.map_id', List.perm_iff_count, List.count_append,
        List.count_cons, List.count_nil]
      omega
    · simp only [chain, optWaiters, workerWaiters, *, List.map_cons, List.map_nil, List.append_assoc,
        List.nil_append, List.append_sublist_append_left, List.sublist_cons_self, List.sublist_append_right,
        List.nil_sublist]
  -- ids pass from one stage to the next
  case recvRows | recvForce | flushTrigger | enqueued | workerTake | flushBegin =>
    refine h.silent rfl rfl ?_
    clear h
    simp_all [chain, optWaiters, workerWaiters]
  all_goals exact h.silent rfl rfl rfl

theorem iterates (c : Cfg) : Iterates (step c) (run c) :=
  ⟨fun _ => rfl, fun s e es => by cases h : step c s e <;> simp [run, h]⟩

theorem reachable_core (c : Cfg) (s : St) (hr : Reachable c s) : InvCore s := by
  obtain ⟨tr, htr⟩ := hr
  refine (iterates c).inv InvCore (fun s e s' h hs => ?_) ⟨?_, ?_, ?_⟩ htr
  · have hs := step_sound hs
    exact ⟨ledger_step h.ledger hs, life_step h.life hs, rowsPos_step h.rowsPos hs⟩
  · exact ⟨.refl _, .refl _, .nil⟩
  · constructor <;> simp [init]
  · simp [RowsPos, init]

theorem reachable_size (c : Cfg) (hc : 0 < c.maxRows) (s : St) (hr : Reachable c s) : InvSize c s := by
  obtain ⟨tr, htr⟩ := hr
  refine ((iterates c).inv (fun s => RowsPos s ∧ InvSize c s) (fun s e s' ⟨h1, h2⟩ hs => ?_) ⟨?_, ?_⟩ htr).2
  · have hs := step_sound hs
    exact ⟨rowsPos_step h1 hs, size_step hc h2 h1 hs⟩
  · simp [RowsPos, init]
  · constructor <;> simp [init, optWaiters, workerWaiters]; omega

theorem step_mono {c : Cfg} {s s' : St} {e : Ev} (hs : Step c s e s') :
    (s.stopped = true → s'.stopped = true) ∧
    (s.flushCancelled = true → s'.flushCancelled = true ∧ Ev.flushBegin ≠ e) := by
  cases hs <;> simp_all

theorem no_begin_after_cancel (c : Cfg) (s : St) (tr : List Ev) (s' : St)
    (h : s.flushCancelled = true) (hr : run c s tr = some s') :
    s'.flushCancelled = true ∧ Ev.flushBegin ∉ tr :=
  ((iterates c).events (·.flushCancelled = true) (Ev.flushBegin ≠ ·)
    (fun _ _ _ hi hs => (step_mono (step_sound hs)).2 hi) h hr).imp_right fun h hm => h _ hm rfl

theorem graceful_stop (c : Cfg) (s : St) (hr : Reachable c s)
    (h : s.stopReturned = some true) : ∀ a ∈ s.accepted, a ∈ answeredIds s := by
  have hcore := reachable_core c s hr
  have hnil : chain s = [] := by
    rcases hcore.life.nilDrained h with ⟨_, ha, hw⟩ | ⟨hns, hq⟩
    · obtain ⟨_, _, a3, a4, a5, _⟩ := hcore.life.actorDone ha
      obtain ⟨_, w2, w3⟩ := hcore.life.workerDone hw
      simp [chain, a3, a4, a5, w2, w3, optWaiters, workerWaiters]
    · obtain ⟨b1, b2, b3, b4, _, _⟩ := hcore.life.unstartedIdle hns
      simp [chain, hq, b1, b2, b3, b4, optWaiters, workerWaiters]
  intro a ha
  simpa [hnil] using hcore.ledger.places.mem_iff.2 ha

theorem worker_front {s : St} {r : FlushReq} {b : Bool} (hw : s.worker = some (r, b)) : r.waiters <+: chain s := by
  simp only [chain, hw, workerWaiters, List.append_assoc]
  exact List.prefix_append _ _

/-- Whatever was accepted before an id `w` of a front part `R` of the chain is answered or is in `R` itself. The
    chain is the accepted list with the answered ids filtered out, so `R` and the unanswered ids before `w` are both
    front parts of it and one is a front part of the other; were it `R`, `w` would be accepted twice. -/
theorem Ledger.before {s : St} (h : Ledger s) {R pre post : List Nat} {w a : Nat} (hR : R <+: chain s)
    (hw : w ∈ R) (hacc : s.accepted = pre ++ w :: post) (ha : a ∈ pre) : a ∈ answeredIds s ∨ a ∈ R := by
  refine (Decidable.em _).imp_right fun hA => ?_
  rw [h.chain_eq, unanswered, hacc, List.filter_append] at hR
  rcases List.prefix_or_prefix_of_prefix hR (List.prefix_append _ _) with hRF | hFR
  · have hwp : w ∈ pre := (List.mem_filter.1 (hRF.subset hw)).1
    exact ((List.nodup_append.1 (hacc ▸ h.fresh)).2.2 w hwp w List.mem_cons_self rfl).elim
  · exact hFR.subset (List.mem_filter.2 ⟨ha, by simpa using hA⟩)

theorem Reachable.append {c : Cfg} {s s' : St} (h : Reachable c s) (tr : List Ev) (hr : run c s tr = some s') :
    Reachable c s' :=
  let ⟨t, ht⟩ := h
  ⟨t ++ tr, by rw [(iterates c).append, ht]; exact hr⟩

/-- A mid-flight state with every stage occupied; the witness traces of C05, C07 and C09 reach it. -/
def busy : St :=
  { started := true, accepted := [1, 2, 3, 4, 5, 6, 7], ingestQ := [⟨6, .rows 3⟩, ⟨7, .empty⟩],
    pending := some ⟨[5], false⟩, flushQ := some ⟨[4], false⟩, worker := some (⟨[1, 3], true⟩, true),
    answered := [(2, false)] }

end BloomVerif.Pipeline
