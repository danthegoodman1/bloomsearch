/-
  Association lists as finite maps: what `List.lookup` returns after the list operations the models
  use to update one (filter on the key, rewrite the value at one key in place), and how `lookup`
  relates to the list of keys. Core's `List.lookup_append`, `List.lookup_singleton`,
  `List.lookup_eq_none_iff` and `List.lookup_isSome_iff` are the rest.
-/
namespace List
variable {α β : Type} [DecidableEq α]

theorem lookup_cons_ite (k : α) (w : β) (l : List (α × β)) (j : α) :
    ((k, w) :: l).lookup j = if j = k then some w else l.lookup j := by
  rw [lookup_cons]; split <;> simp_all

theorem lookup_filter_key (f : α → Bool) (l : List (α × β)) (q : α) :
    (l.filter (fun x => f x.1)).lookup q = if f q then l.lookup q else none := by
  induction l with
  | nil => simp
  | cons x l ih =>
    obtain ⟨k, v⟩ := x
    rw [filter_cons]
    by_cases hq : q = k
    · subst hq; cases hk : f q <;> simp [hk, ih]
    · cases hk : f k <;> simp [ih, lookup_cons_ite, hq]

theorem lookup_map_at (i : α) (g : β → β) (l : List (α × β)) (j : α) :
    (l.map (fun x => if x.1 == i then (i, g x.2) else x)).lookup j =
      if j = i then (l.lookup j).map g else l.lookup j := by
  induction l with
  | nil => simp
  | cons x l ih =>
    obtain ⟨k, v⟩ := x
    by_cases hk : k = i
    · subst hk
      rw [map_cons, show (if ((k, v).1 == k) = true then (k, g (k, v).2) else (k, v)) = (k, g v) by simp,
        lookup_cons_ite, lookup_cons_ite, ih]
      split <;> rfl
    · rw [map_cons, show (if ((k, v).1 == i) = true then (i, g (k, v).2) else (k, v)) = (k, v) by simp [hk],
        lookup_cons_ite, lookup_cons_ite, ih]
      by_cases hj : j = k
      · subst hj; simp [hk]
      · simp [hj]

theorem lookup_snoc (l : List (α × β)) (i j : α) (v : β) (h : l.lookup i = none) :
    (l ++ [(i, v)]).lookup j = if j = i then some v else l.lookup j := by
  rw [lookup_append, lookup_cons_ite]
  split
  · next e => rw [e, h]; rfl
  · exact Option.or_none

/-- The shape of `Pool.setStatus`: replace in place if the key is bound, else append. -/
theorem lookup_upsert (l : List (α × β)) (i j : α) (v : β) :
    (if l.any (fun x => x.1 == i) then l.map (fun x => if x.1 == i then (i, v) else x) else l ++ [(i, v)]).lookup j
      = if j = i then some v else l.lookup j := by
  split
  · next hany =>
    rw [lookup_map_at i (fun _ => v)]
    split
    · next e =>
      subst e
      obtain ⟨x, hx, hxi⟩ := any_eq_true.1 hany
      obtain ⟨w, hw⟩ := Option.isSome_iff_exists.1 (lookup_isSome_iff.2 ⟨x, hx, beq_iff_eq.2 (beq_iff_eq.1 hxi).symm⟩)
      rw [hw]; rfl
    · rfl
  · next hany =>
    have hnone : l.lookup i = none :=
      lookup_eq_none_iff.2 fun p hp => bne_iff_ne.2 fun e => hany (any_eq_true.2 ⟨p, hp, beq_iff_eq.2 e.symm⟩)
    exact lookup_snoc l i j v hnone

theorem keys_map_at (i : α) (g : β → β) (l : List (α × β)) :
    (l.map (fun x => if x.1 == i then (i, g x.2) else x)).map (·.1) = l.map (·.1) := by
  rw [map_map]; apply map_congr_left; intro x _; by_cases h : x.1 = i <;> simp [h]

omit [DecidableEq α] in
theorem keys_filter_nodup {l : List (α × β)} (h : (l.map (·.1)).Nodup) (f : α × β → Bool) :
    ((l.filter f).map (·.1)).Nodup :=
  Nodup.sublist (Sublist.map _ filter_sublist) h

theorem keys_snoc_nodup {l : List (α × β)} (h : (l.map (·.1)).Nodup) {k : α} (v : β)
    (hk : l.lookup k = none) : ((l ++ [(k, v)]).map (·.1)).Nodup := by
  refine ((perm_append_singleton _ _).map _).nodup_iff.2 (nodup_cons.2 ⟨fun hm => ?_, h⟩)
  obtain ⟨p, hp, e⟩ := mem_map.1 hm
  exact bne_iff_ne.1 (lookup_eq_none_iff.1 hk p hp) e.symm

theorem mem_of_lookup_eq_some {l : List (α × β)} {k : α} {v : β} (h : l.lookup k = some v) : (k, v) ∈ l := by
  obtain ⟨l₁, l₂, rfl, _⟩ := lookup_eq_some_iff.1 h; simp

theorem lookup_eq_some_of_mem {l : List (α × β)} (hn : (l.map (·.1)).Nodup) {k : α} {v : β} (h : (k, v) ∈ l) :
    l.lookup k = some v := by
  induction l with
  | nil => cases h
  | cons q t ih =>
    obtain ⟨a, w⟩ := q
    rw [map_cons, nodup_cons] at hn
    rw [lookup_cons_ite]
    rcases mem_cons.1 h with e | e
    · cases e; rw [if_pos rfl]
    · rw [if_neg fun (e' : k = a) => hn.1 (e' ▸ mem_map.2 ⟨(k, v), e, rfl⟩), ih hn.2 e]

end List
