/-
  Expression trees as a caller builds and ships them. A builder chain means the fold "simple calls conjoin, Match
  assigns": the bloom and the regex half of `BState` are the same accumulator (`ExprAcc`), and what an accumulator
  stands for (`Means`) follows that fold step by step; C25 carries it along the chain by core's `List.foldl_rel`.
  The regex compile step keeps the meaning of proper trees. The JSON codecs round-trip, field by field.
-/
import BloomVerif.Model.ExprJson
import BloomVerif.Lemmas.Flatten
import BloomVerif.Lemmas.Assoc
namespace BloomVerif

/-- One of the builder's two accumulators (bloom, regex): the explicit tree, once `Match…` has been called,
    and the conjuncts collected before. `BState` holds two of them, field by field. -/
structure ExprAcc (C : Type) where
  explicit : Bool
  cur : Option (Expr C)
  implicit : List (Expr C)

namespace ExprAcc
variable {C : Type} (leaf : C → Bool)

/-- `addBloomExpression` / `addRegexExpression` on one accumulator. -/
def add (s : ExprAcc C) (e : Expr C) : ExprAcc C :=
  if s.explicit then
    match s.cur with
    | none => { s with cur := some e }
    | some cur => { s with cur := some (mkAnd [cur, e]) }
  else { s with implicit := s.implicit ++ [e] }

/-- Its share of `Build`. -/
def build (s : ExprAcc C) : Option (Expr C) :=
  if !s.explicit && !s.implicit.isEmpty then some (mkAnd s.implicit) else s.cur

/-- The verdict `v` an accumulator stands for. With nothing collected `Build` returns `cur`: it has to be empty
    before the first `Match…`. -/
def Means (s : ExprAcc C) (v : Bool) : Prop :=
  if s.explicit then Expr.evalOpt leaf s.cur = v else s.cur = none ∧ s.implicit.all (Expr.eval leaf) = v

variable {leaf} {s : ExprAcc C} {v : Bool}

theorem Means.add (h : s.Means leaf v) (e : Expr C) : (s.add e).Means leaf (v && Expr.eval leaf e) := by
  unfold Means ExprAcc.add at *
  cases hb : s.explicit <;> simp only [hb, if_true, if_false, Bool.false_eq_true] at h ⊢
  · simp [h.1, ← h.2, List.all_append]
  · subst h; cases s.cur <;> simp [Expr.evalOpt, Expr.eval_mkAnd]

theorem Means.set (e : Expr C) : Means leaf ⟨true, some e, []⟩ (Expr.eval leaf e) := rfl

theorem Means.build (h : s.Means leaf v) : Expr.evalOpt leaf s.build = v := by
  unfold Means ExprAcc.build at *
  cases hb : s.explicit <;> simp only [hb, if_true, if_false, Bool.false_eq_true] at h ⊢
  · cases hl : s.implicit <;> simp [hl, h.1, ← h.2, Expr.evalOpt, Expr.eval_mkAnd]
  · simpa using h

end ExprAcc

def BState.bloomAcc (s : BState) : ExprAcc BloomCond := ⟨s.bloomExplicit, s.bloom, s.implicitBloom⟩
def BState.regexAcc (s : BState) : ExprAcc RegexCond := ⟨s.regexExplicit, s.regex, s.implicitRegex⟩

theorem addBloom_accs (s : BState) (e : BloomExpr) :
    (s.addBloom e).bloomAcc = s.bloomAcc.add e ∧ (s.addBloom e).regexAcc = s.regexAcc ∧
      (s.addBloom e).pre = s.pre := by
  unfold BState.addBloom ExprAcc.add BState.bloomAcc BState.regexAcc
  split
  · split <;> simp_all
  · simp_all

theorem addRegex_accs (s : BState) (e : RegexExpr) :
    (s.addRegex e).regexAcc = s.regexAcc.add e ∧ (s.addRegex e).bloomAcc = s.bloomAcc ∧
      (s.addRegex e).pre = s.pre := by
  unfold BState.addRegex ExprAcc.add BState.bloomAcc BState.regexAcc
  split
  · split <;> simp_all
  · simp_all

mutual
  /-- No CONDITION node lacks its condition and every node type is known (true of every tree
      built with FieldRegex / RegexAnd / RegexOr). -/
  def Expr.Proper {C : Type} : Expr C → Prop
    | .mk ty cond ch => (ty = "CONDITION" ∧ cond.isSome) ∨ ((ty = "AND" ∨ ty = "OR") ∧ Expr.ProperL ch)
  def Expr.ProperL {C : Type} : List (Expr C) → Prop
    | [] => True
    | e :: es => Expr.Proper e ∧ Expr.ProperL es
end

mutual
  theorem compileRx_proper (leaf : RegexCond → Bool) :
      ∀ e : RegexExpr, Expr.Proper e → ∃ e', compileRx e = some e' ∧ Expr.eval leaf e' = Expr.eval leaf e
    | .mk ty cond ch => by
      intro h
      simp only [Expr.Proper] at h
      rcases h with ⟨h1, h2⟩ | ⟨h1 | h1, h2⟩
      · subst h1
        cases cond with
        | none => simp at h2
        | some c => exact ⟨.mk "CONDITION" (some c) [], by simp [compileRx], by simp [Expr.eval]⟩
      · subst h1
        refine ⟨.mk "AND" none (compileRxL ch), by simp [compileRx], ?_⟩
        simp [Expr.eval, (compileRxL_proper leaf ch h2).2]
      · subst h1
        refine ⟨.mk "OR" none (compileRxL ch), by simp [compileRx], ?_⟩
        simp [Expr.eval, (compileRxL_proper leaf ch h2).1]
  theorem compileRxL_proper (leaf : RegexCond → Bool) :
      ∀ es : List RegexExpr, Expr.ProperL es →
        Expr.evalAny leaf (compileRxL es) = Expr.evalAny leaf es ∧
        Expr.evalAll leaf (compileRxL es) = Expr.evalAll leaf es
    | [] => by intro _; simp [compileRxL]
    | e :: es => by
      intro h
      simp only [Expr.ProperL] at h
      obtain ⟨e', he, hev⟩ := compileRx_proper leaf e h.1
      obtain ⟨ih1, ih2⟩ := compileRxL_proper leaf es h.2
      simp [compileRxL, he, Expr.evalAny, Expr.evalAll, hev, ih1, ih2]
end

/-! Fields of an encoded object: `JV.get` on an object is `List.lookup`, which distributes over the encoder's `++`
    (core's `List.lookup_append`), and each piece is a singleton that is present unless the field is zero
    (`omitempty`); each decoder returns the zero value where the field is absent. So a round trip costs one step
    per field, not one per combination of zero fields. -/

theorem lookup_omit (k k' : String) (p : Prop) [Decidable p] (v : JV) :
    List.lookup k (if p then [] else [(k', v)]) = if k = k' ∧ ¬p then some v else none := by
  split <;> simp [List.lookup_cons_ite, *]

-- The decoders are stated on a hypothesis about `j.get k`: their `match` is a matcher of Model/ExprJson,
-- which a lemma about the same `match` written here would not mention.
theorem getStr_omit {k : String} {j : JV} (s : String)
    (h : j.get k = if ¬s = "" then some (JV.str s) else none) : getStr k j = s := by
  unfold getStr; rw [h]; by_cases hs : s = "" <;> simp [hs]

theorem getStr_some {k : String} {j : JV} (s : String) (h : j.get k = some (JV.str s)) : getStr k j = s := by
  unfold getStr; rw [h]

theorem getInt_omit {k : String} {j : JV} (i : Int)
    (h : j.get k = if ¬i = 0 then some (JV.int i) else none) : getInt k j = i := by
  unfold getInt; rw [h]; by_cases hs : i = 0 <;> simp [hs]

theorem getStrs_omit {k : String} {j : JV} (l : List String)
    (h : j.get k = if ¬l.isEmpty = true then some (JV.arr (l.map .str)) else none) : getStrs k j = l := by
  unfold getStrs; rw [h]
  cases l with
  | nil => rfl
  -- the element decoder after `JV.str` is `some`
  | cons a t => exact List.filterMap_map.trans List.filterMap_some

theorem getInts_omit {k : String} {j : JV} (l : List Int)
    (h : j.get k = if ¬l.isEmpty = true then some (JV.arr (l.map .int)) else none) : getInts k j = l := by
  unfold getInts; rw [h]
  cases l with
  | nil => rfl
  | cons a t => exact List.filterMap_map.trans List.filterMap_some

theorem roundtrip_strCond (c : StringCondition) : decStrCond (encStrCond c) = c := by
  unfold decStrCond
  rw [getStr_omit c.Operator, getStr_omit c.Value, getStrs_omit c.Values, getStr_omit c.Min, getStr_omit c.Max]
  -- one side goal per field: what the lookup of its key finds in the encoded object
  all_goals simp only [encStrCond, omitStr, JV.get, List.lookup_append, lookup_omit, String.reduceEq, true_and,
    false_and, if_false, Option.or_none, Option.none_or]

theorem roundtrip_numCond (c : NumericCondition) : decNumCond (encNumCond c) = c := by
  unfold decNumCond
  rw [getStr_omit c.Operator, getInt_omit c.Value, getInts_omit c.Values, getInt_omit c.Min, getInt_omit c.Max]
  all_goals simp only [encNumCond, omitStr, omitInt, JV.get, List.lookup_append, lookup_omit, String.reduceEq,
    true_and, false_and, if_false, Option.or_none, Option.none_or]

theorem roundtrip_bloomCond (c : BloomCond) : decBloomCond (encBloomCond c) = c := by
  simp [decBloomCond, encBloomCond, getStr, getTxt, JV.get, List.lookup]

theorem roundtrip_regexCond (c : RegexCond) : decRegexCond (encRegexCond c) = c := by
  simp [decRegexCond, encRegexCond, getTxt, JV.get, List.lookup]

/-- An optional sub-object (`Condition`, `PartitionCondition`, `MinMaxCondition`) is decoded by a `match` on what the
    lookup found; this is that `match` on a found, encoded value - what is left of the field once it is looked up. -/
theorem decObj_enc {C : Type} {encC : C → JV} {decC : JV → C}
    (hrt : ∀ c, decC (encC c) = c) (hobj : ∀ c, ∃ kvs, encC c = .obj kvs) (c : C) :
    (match some (encC c) with
      | some (JV.obj kvs) => some (decC (JV.obj kvs))
      | _ => none) = some c := by
  obtain ⟨kvs, hk⟩ := hobj c
  rw [hk]
  exact congrArg some (hk ▸ hrt c)

theorem roundtrip_preCond (c : PreCond) : decPreCond (encPreCond c) = c := by
  obtain ⟨ct, pc, fn, mc⟩ := c
  have hs := decObj_enc roundtrip_strCond fun _ => ⟨_, rfl⟩
  have hn := decObj_enc roundtrip_numCond fun _ => ⟨_, rfl⟩
  -- whether the two optional sub-objects are there is a `match` of the encoder, hence a case split; within a
  -- case the fields are looked up one by one
  cases pc <;> cases mc <;>
    simp only [decPreCond, encPreCond, getStr_some ct, getStr_omit fn, omitStr, List.cons_append, List.nil_append,
      List.append_nil, JV.get, List.lookup_cons_ite, List.lookup_append, lookup_omit, List.lookup_nil,
      String.reduceEq, if_true, if_false, true_and, false_and, Option.or_none, PrefilterCondition.mk.injEq, and_true]
  · exact hn _
  · exact hs _
  · exact ⟨hs _, hn _⟩

mutual
  theorem rt_expr {C : Type} (encC : C → JV) (decC : JV → C)
      (hrt : ∀ c, decC (encC c) = c) (hobj : ∀ c, ∃ kvs, encC c = .obj kvs) :
      ∀ (e : Expr C) (fuel : Nat), Expr.depth e ≤ fuel →
        decExpr decC fuel (encExpr encC e) = some e
    | .mk ty cond ch, 0 => by simp [Expr.depth]
    | .mk ty cond ch, n + 1 => by
      intro hf
      have ih := rt_exprL encC decC hrt hobj ch n (by simp [Expr.depth] at hf; omega)
      -- the encoder omits a nil condition and empty children; where there is a condition, it is left to decode
      cases cond <;> cases ch <;> simp [encExpr, decExpr, JV.get, getStr, List.lookup, ih]
      all_goals exact decObj_enc hrt hobj _
  theorem rt_exprL {C : Type} (encC : C → JV) (decC : JV → C)
      (hrt : ∀ c, decC (encC c) = c) (hobj : ∀ c, ∃ kvs, encC c = .obj kvs) :
      ∀ (es : List (Expr C)) (fuel : Nat), Expr.depthL es ≤ fuel →
        (encExprL encC es).mapM (decExpr decC fuel) = some es
    | [], _ => by intro _; simp [encExprL]
    | e :: es, fuel => by
      intro h
      simp only [Expr.depthL] at h
      have h1 := rt_expr encC decC hrt hobj e fuel (by omega)
      have h2 := rt_exprL encC decC hrt hobj es fuel (by omega)
      simp [encExprL, h1, h2]
end

end BloomVerif
