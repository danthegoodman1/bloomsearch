/- What `filePlan` is, in the one form C23 and C24 use it. -/
import BloomVerif.Model.ReadPlan

namespace BloomVerif.ReadPlan

theorem filePlan_cases (hb : Bool) (f : QFile) :
    filePlan hb f = ⟨false, false, []⟩ ∨
    (kept f ≠ [] ∧ (hb = true → f.fileFilt = true) ∧
      (filePlan hb f).stats = (kept f).map (fun b => (b.off, blockStat hb b)) ∧
      (filePlan hb f).regionRead = (hb && (kept f).any (fun b => decide (b.secSize > 0)))) := by
  unfold filePlan
  dsimp only
  split
  · exact .inl rfl
  split
  · exact .inl rfl
  next hk hf =>
    refine .inr ⟨fun e => hk (by rw [e]; rfl), fun hbt => ?_, rfl, rfl⟩
    simpa [hbt] using hf

end BloomVerif.ReadPlan
