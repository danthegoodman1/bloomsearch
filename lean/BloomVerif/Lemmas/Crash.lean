/-
  C15 for one flush. `crash_all G F c ops` says that `G` holds at every mutation boundary of `ops` run
  from `c` and `F` at the end; along a flush `G` is "`b.dat` is absent, an empty reservation, or complete
  and fsynced" (`crash_EmptyOrComplete`), and what either kind of crash (`Crashed`) leaves under `b.dat`
  is read off it.
-/
import BloomVerif.Model.Crash
import BloomVerif.Lemmas.FS
namespace BloomVerif.Crash
open BloomVerif.FSStore

/-- The starting point of a flush: a well-formed directory in which neither name of `b` exists,
    currently or durably. -/
def FreshFor (c : CFS) (b : String) : Prop :=
  c.cur.lookup (dat b) = none ∧ c.cur.lookup (tmp b) = none ∧ c.dur.lookup (dat b) = none ∧ c.dur.lookup (tmp b) = none ∧
  (∀ p i, c.cur.lookup p = some i → i < c.cur.next) ∧ (∀ p i, c.dur.lookup p = some i → i < c.cur.next) ∧
  (∀ i, (c.cur.inodes.lookup i).isSome → i < c.cur.next) ∧ (c.cur.inodes.map (·.1)).Nodup

theorem FreshFor.tmp_absent {c : CFS} {b : String} (h : FreshFor c b) : c.cur.lookup (tmp b) = none := h.2.1
theorem FreshFor.lookup_lt {c : CFS} {b : String} (h : FreshFor c b) :
    ∀ p i, c.cur.lookup p = some i → i < c.cur.next := h.2.2.2.2.1

theorem step_createExcl {c : CFS} {p : String} (h : c.cur.lookup p = none) :
    step c (.createExcl p) = { c with cur := c.cur.mk1 p } := by
  simp only [step, createExcl_eq h]

theorem step_write {c : CFS} {p : String} {i : Nat} (h : c.cur.lookup p = some i) (bs : Bytes) :
    step c (.write p bs) = { c with cur := c.cur.append i bs } := by
  simp only [step, h]

theorem step_fsync {c : CFS} {p : String} {i : Nat} (h : c.cur.lookup p = some i) :
    step c (.fsync p) = { c with synced := (i, (c.cur.data i).length) :: c.synced } := by
  simp only [step, h]

theorem step_rename {c : CFS} {a : String} {i : Nat} (h : c.cur.lookup a = some i) (b : String) :
    step c (.rename a b) = { c with cur := c.cur.mv a b i } := by
  simp only [step, rename_eq h]

/-- What one operation does, through the primitives of `Lemmas/FS`. A `createExcl`, `write`, `fsync` or
    `rename` whose path lookup fails changes nothing (`nop`); `nop` asks nothing of the operation, so the
    relation over-approximates `step`, which is all an invariant needs. -/
inductive Step (c : CFS) : FOp → CFS → Prop
  | nop (op : FOp) : Step c op c
  | create {p : String} (h : c.cur.lookup p = none) : Step c (.createExcl p) { c with cur := c.cur.mk1 p }
  | write {p : String} {i : Nat} (h : c.cur.lookup p = some i) (bs : Bytes) :
      Step c (.write p bs) { c with cur := c.cur.append i bs }
  | fsync {p : String} {i : Nat} (h : c.cur.lookup p = some i) :
      Step c (.fsync p) { c with synced := (i, (c.cur.data i).length) :: c.synced }
  | rename {a : String} {i : Nat} (h : c.cur.lookup a = some i) (b : String) :
      Step c (.rename a b) { c with cur := c.cur.mv a b i }
  | remove (p : String) : Step c (.remove p) { c with cur := c.cur.remove p }
  | dirsync : Step c .dirsync { c with dur := c.cur.names }

theorem step_sound (c : CFS) (op : FOp) : Step c op (step c op) := by
  cases op with
  | createExcl p =>
    cases h : c.cur.lookup p with
    | none => rw [step_createExcl h]; exact .create h
    | some i => simp only [step, FS.createExcl, h]; exact .nop _
  | write p bs =>
    cases h : c.cur.lookup p with
    | none => simp only [step, h]; exact .nop _
    | some i => rw [step_write h]; exact .write h bs
  | fsync p =>
    cases h : c.cur.lookup p with
    | none => simp only [step, h]; exact .nop _
    | some i => rw [step_fsync h]; exact .fsync h
  | rename a b =>
    cases h : c.cur.lookup a with
    | none => simp only [step, FS.rename, h]; exact .nop _
    | some i => rw [step_rename h]; exact .rename h b
  | remove p => exact .remove p
  | dirsync => exact .dirsync

def Avoids (p : String) : FOp → Prop
  | .createExcl q => q ≠ p
  | .write q _ => q ≠ p
  | .fsync q => q ≠ p
  | .rename a b => a ≠ p ∧ b ≠ p
  | .remove q => q ≠ p
  | .dirsync => True

theorem Step.lookup {c c' : CFS} {op : FOp} {p : String} (h : Step c op c') (hav : Avoids p op) :
    c'.cur.lookup p = c.cur.lookup p := by
  cases h with
  | create hp => exact (lookup_mk1 _ _ _ hp).trans (if_neg (Ne.symm hav))
  | rename hp b => exact (lookup_mv ..).trans ((if_neg (Ne.symm hav.2)).trans (if_neg (Ne.symm hav.1)))
  | remove q => exact (lookup_remove ..).trans (if_neg (Ne.symm hav))
  | _ => rfl

/-- `G` holds at every prefix of `ops` run from `c`, and `F` at the end. -/
def crash_all (G F : CFS → Prop) : CFS → List FOp → Prop
  | c, [] => G c ∧ F c
  | c, o :: ops => G c ∧ crash_all G F (step c o) ops

theorem crash_all_spec (G F : CFS → Prop) (c : CFS) (ops : List FOp) (h : crash_all G F c ops) :
    (∀ n, G (run c (ops.take n))) ∧ F (run c ops) := by
  induction ops generalizing c with
  | nil => simpa [run, crash_all] using h
  | cons o ops ih =>
    obtain ⟨hg, h⟩ := h
    obtain ⟨h1, h2⟩ := ih _ h
    refine ⟨fun n => ?_, by simpa [run] using h2⟩
    cases n with
    | zero => simpa [run] using hg
    | succ n => simpa [run] using h1 n

/-- `b.dat` is durably absent, and currently absent or an empty reservation. -/
def crash_Empty (b : String) (c : CFS) : Prop :=
  c.dur.lookup (dat b) = none ∧
  (c.cur.lookup (dat b) = none ∨ ∃ i, c.cur.lookup (dat b) = some i ∧ c.cur.data i = [])

/-- `b.dat` is bound to the complete, fully fsynced content; the binding may not be durable yet. -/
def crash_Complete (b : String) (total : Bytes) (c : CFS) : Prop :=
  ∃ i, c.cur.lookup (dat b) = some i ∧ (c.dur.lookup (dat b) = none ∨ c.dur.lookup (dat b) = some i) ∧
    c.cur.data i = total ∧ syncedLen c i = total.length

/-- `crash_Complete` with the binding durable as well: what holds once the flush has returned. -/
def crash_Final (b : String) (total : Bytes) (c : CFS) : Prop :=
  ∃ i, c.cur.lookup (dat b) = some i ∧ c.dur.lookup (dat b) = some i ∧
    c.cur.data i = total ∧ syncedLen c i = total.length

def Crashed (c : CFS) (r : Recovered) : Prop := PowerLoss c r ∨ r = processCrash c

/-- What the crash theorems use of either kind of crash. (The process-crash state need not be a power-loss
    state: nothing bounds `syncedLen` by the current length.) -/
structure CrashView (c : CFS) (r : Recovered) : Prop where
  names_sub : ∀ p i, r.names.lookup p = some i → c.cur.lookup p = some i ∨ c.dur.lookup p = some i
  names_agree : ∀ p, c.cur.lookup p = c.dur.lookup p → r.names.lookup p = c.cur.lookup p
  data_prefix : ∀ i, ∃ k, syncedLen c i ≤ k ∧ r.data i = (c.cur.data i).take k

theorem Crashed.view {c : CFS} {r : Recovered} (h : Crashed c r) : CrashView c r := by
  rcases h with ⟨h1, h2, h3⟩ | rfl
  · exact ⟨h1, h2, fun i => (h3 i).imp fun k hk => ⟨hk.1, hk.2.2⟩⟩
  · exact ⟨fun p i h => Or.inl h, fun p _ => rfl, fun i =>
      ⟨max (syncedLen c i) (c.cur.data i).length, Nat.le_max_left _ _,
        (List.take_of_length_le (Nat.le_max_right _ _)).symm⟩⟩

theorem recoveredDat_of_crashed {c : CFS} {r : Recovered} (hp : Crashed c r) (b : String) :
    recoveredDat r b = none ∨ ∃ i k, (c.cur.lookup (dat b) = some i ∨ c.dur.lookup (dat b) = some i) ∧
      syncedLen c i ≤ k ∧ recoveredDat r b = some ((c.cur.data i).take k) := by
  unfold recoveredDat
  cases hr : r.names.lookup (dat b) with
  | none => exact Or.inl rfl
  | some i =>
    obtain ⟨k, hk, he⟩ := hp.view.data_prefix i
    exact Or.inr ⟨i, k, hp.view.names_sub _ _ hr, hk, by rw [Option.map_some, he]⟩

theorem crash_Empty_crashed (b : String) (c : CFS) (r : Recovered) (h : crash_Empty b c) (hp : Crashed c r) :
    recoveredDat r b = none ∨ recoveredDat r b = some [] := by
  rcases recoveredDat_of_crashed hp b with hn | ⟨i, k, hi, _, he⟩
  · exact Or.inl hn
  · right
    rcases hi with hi | hi
    · rcases h.2 with hc | ⟨j, hj, hdj⟩
      · rw [hc] at hi; cases hi
      · rw [hj] at hi; cases hi
        rw [he, hdj, List.take_nil]
    · rw [h.1] at hi; cases hi

theorem crash_Complete_crashed (b : String) (total : Bytes) (c : CFS) (r : Recovered) (h : crash_Complete b total c)
    (hp : Crashed c r) : recoveredDat r b = none ∨ recoveredDat r b = some total := by
  obtain ⟨j, hj, hd, hdj, hs⟩ := h
  rcases recoveredDat_of_crashed hp b with hn | ⟨i, k, hi, hk, he⟩
  · exact Or.inl hn
  · have : j = i := by
      rcases hi with hi | hi
      · rw [hj] at hi; exact Option.some.inj hi
      · rcases hd with hd | hd <;> rw [hd] at hi
        · cases hi
        · exact Option.some.inj hi
    subst this
    -- the whole content is fsynced, so the prefix is all of it
    exact Or.inr (by rw [he, hdj, List.take_of_length_le (hs ▸ hk)])

theorem crash_Final_crashed (b : String) (total : Bytes) (c : CFS) (r : Recovered) (h : crash_Final b total c)
    (hp : Crashed c r) : recoveredDat r b = some total := by
  obtain ⟨j, hj, hd, hdj, hs⟩ := h
  have hr := hp.view.names_agree (dat b) (by rw [hj, hd])
  rcases crash_Complete_crashed b total c r ⟨j, hj, Or.inr hd, hdj, hs⟩ hp with h | h
  · rw [recoveredDat, hr, hj] at h; cases h
  · exact h

/-- The write phase of a flush: `b.dat` is the empty reservation, `b.tmp` is another inode and holds `acc`,
    and nothing of `b` is durable. -/
def crash_Writing (b : String) (acc : Bytes) (c : CFS) : Prop :=
  ∃ i0 i1, i0 ≠ i1 ∧ c.cur.lookup (dat b) = some i0 ∧ c.cur.lookup (tmp b) = some i1 ∧
    c.cur.data i0 = [] ∧ c.cur.inodes.lookup i1 = some acc ∧ c.dur.lookup (dat b) = none

theorem crash_Writing_Empty (b : String) (acc : Bytes) (c : CFS) (h : crash_Writing b acc c) : crash_Empty b c := by
  obtain ⟨i0, i1, _, hdat, _, hres, _, hdur⟩ := h
  exact ⟨hdur, Or.inr ⟨i0, hdat, hres⟩⟩

theorem crash_Writing_write (b : String) (acc ch : Bytes) (c : CFS) (h : crash_Writing b acc c) :
    crash_Writing b (acc ++ ch) (step c (.write (tmp b) ch)) := by
  obtain ⟨i0, i1, hne, hdat, htmp, hres, hacc, hdur⟩ := h
  rw [step_write htmp]
  refine ⟨i0, i1, hne, hdat, htmp, ?_, ?_, hdur⟩
  · rw [data_append_ne _ _ _ _ hne, hres]
  · rw [inodes_append, if_pos rfl, hacc]; rfl

/-- What holds at every mutation boundary of a flush of `total`. -/
def crash_EmptyOrComplete (b : String) (total : Bytes) (c : CFS) : Prop := crash_Empty b c ∨ crash_Complete b total c

theorem crash_all_mono (G G' F F' : CFS → Prop) (hG : ∀ c, G c → G' c) (hF : ∀ c, F c → F' c)
    (c : CFS) (ops : List FOp) (h : crash_all G F c ops) : crash_all G' F' c ops := by
  induction ops generalizing c with
  | nil => exact ⟨hG _ h.1, hF _ h.2⟩
  | cons o ops ih => exact ⟨hG _ h.1, ih _ h.2⟩

theorem crash_all_append (G F F' : CFS → Prop) (c : CFS) (ops1 ops2 : List FOp)
    (h1 : crash_all G F c ops1) (h2 : ∀ c', F c' → crash_all G F' c' ops2) :
    crash_all G F' c (ops1 ++ ops2) := by
  induction ops1 generalizing c with
  | nil => exact h2 c h1.2
  | cons o ops ih => exact ⟨h1.1, ih _ h1.2⟩

/- The protocols phase by phase (`crash_all_append` puts them together): the two creations, the writes, then
   either the publication or the removals. -/

theorem crash_creates (b : String) (c : CFS) (hf : FreshFor c b) :
    crash_all (crash_Empty b) (crash_Writing b []) c [.createExcl (dat b), .createExcl (tmp b)] := by
  obtain ⟨hcd, hct, hdd, _, _, _, hin, _⟩ := hf
  have hi0 := inodes_fresh hin (Nat.le_refl _)
  have hi1 : (c.cur.mk1 (dat b)).inodes.lookup (c.cur.next + 1) = none := by
    rw [inodes_mk1 hi0, if_neg (Nat.succ_ne_self _)]; exact inodes_fresh hin (Nat.le_succ _)
  have ht1 : (c.cur.mk1 (dat b)).lookup (tmp b) = none := by rw [lookup_mk1 _ _ _ hcd, if_neg (dat_ne_tmp b b).symm]; exact hct
  have hd0 : c.cur.data c.cur.next = [] := data_fresh hin (Nat.le_refl _)
  rw [crash_all, crash_all, step_createExcl hcd, step_createExcl ht1]
  have hW : crash_Writing b [] ⟨(c.cur.mk1 (dat b)).mk1 (tmp b), c.dur, c.synced⟩ := by
    refine ⟨c.cur.next, c.cur.next + 1, Nat.ne_of_lt (Nat.lt_succ_self _), ?_, ?_, ?_, ?_, hdd⟩
    · rw [lookup_mk1 _ _ _ ht1, if_neg (dat_ne_tmp b b), lookup_mk1 _ _ _ hcd, if_pos rfl]
    · rw [lookup_mk1 _ _ _ ht1, if_pos rfl]; rfl
    · rw [data_mk1, data_mk1, hd0]
    · exact (inodes_mk1 hi1 _ _).trans (if_pos rfl)
  refine ⟨⟨hdd, Or.inl hcd⟩, ⟨hdd, Or.inr ⟨c.cur.next, ?_, ?_⟩⟩, crash_Writing_Empty b [] _ hW, hW⟩
  · rw [lookup_mk1 _ _ _ hcd, if_pos rfl]
  · rw [data_mk1, hd0]

theorem crash_writes (b : String) (chunks : List Bytes) (acc : Bytes) (c : CFS) (h : crash_Writing b acc c) :
    crash_all (crash_Empty b) (crash_Writing b (acc ++ chunks.flatten)) c (chunks.map (fun ch => .write (tmp b) ch)) := by
  induction chunks generalizing acc c with
  | nil => exact ⟨crash_Writing_Empty b acc c h, by simpa using h⟩
  | cons ch rest ih =>
    exact ⟨crash_Writing_Empty b acc c h, by simpa using ih (acc ++ ch) _ (crash_Writing_write b acc ch c h)⟩

theorem crash_publish (b : String) (acc : Bytes) (c : CFS) (h : crash_Writing b acc c) :
    crash_all (crash_EmptyOrComplete b acc) (crash_Final b acc) c [.fsync (tmp b), .rename (tmp b) (dat b), .dirsync] := by
  have hE := crash_Writing_Empty b acc c h
  obtain ⟨i0, i1, hne, hdat, htmp, hres, hacc, hdur⟩ := h
  have hdata : c.cur.data i1 = acc := by rw [FS.data, hacc]; rfl
  have hlk : (c.cur.mv (tmp b) (dat b) i1).lookup (dat b) = some i1 := by rw [lookup_mv, if_pos rfl]
  have hsl : ∀ s, syncedLen ⟨c.cur.mv (tmp b) (dat b) i1, s, (i1, acc.length) :: c.synced⟩ i1 = acc.length :=
    fun _ => by rw [syncedLen, List.lookup_cons_ite, if_pos rfl]; rfl
  -- run the three operations: `crash_all` becomes one fact per boundary and one for the end
  rw [crash_all, step_fsync htmp, hdata, crash_all,
    step_rename (c := ⟨c.cur, c.dur, (i1, acc.length) :: c.synced⟩) htmp]
  refine ⟨?before_fsync, ?after_fsync, ?after_rename, ?after_dirsync, ?final⟩
  case before_fsync => exact Or.inl hE
  case after_fsync => exact Or.inl hE      -- only `synced` has grown
  case after_rename => exact Or.inr ⟨i1, hlk, Or.inl hdur, hdata, hsl _⟩     -- complete, the binding not yet durable
  case after_dirsync => exact Or.inr ⟨i1, hlk, Or.inr hlk, hdata, hsl _⟩
  case final => exact ⟨i1, hlk, hlk, hdata, hsl _⟩

theorem crash_Empty_remove (b p : String) (c : CFS) (h : crash_Empty b c) : crash_Empty b (step c (.remove p)) := by
  refine ⟨h.1, ?_⟩
  show (c.cur.remove p).lookup (dat b) = none ∨ ∃ i, (c.cur.remove p).lookup (dat b) = some i ∧ c.cur.data i = []
  rw [lookup_remove]
  split
  · exact Or.inl rfl
  · exact h.2

theorem crash_removes (b : String) (ps : List String) (c : CFS) (h : crash_Empty b c) :
    crash_all (crash_Empty b) (crash_Empty b) c (ps.map .remove) := by
  induction ps generalizing c with
  | nil => exact ⟨h, h⟩
  | cons p ps ih => exact ⟨h, ih _ (crash_Empty_remove b p c h)⟩

theorem crash_flush_all (b : String) (chunks : List Bytes) (c : CFS) (hf : FreshFor c b) :
    crash_all (crash_EmptyOrComplete b chunks.flatten) (crash_Final b chunks.flatten) c (flushOps b chunks) :=
  crash_all_append _ _ _ c _ _
    (crash_all_mono _ _ _ _ (fun _ => Or.inl) (fun _ h => h) c _
      (crash_all_append _ _ _ c _ _ (crash_creates b c hf) (crash_writes b chunks [])))
    (crash_publish b _)

theorem crash_abort_all (b : String) (chunks : List Bytes) (c : CFS) (hf : FreshFor c b) :
    crash_all (crash_Empty b) (crash_Empty b) c (abortedFlushOps b chunks) :=
  crash_all_append _ _ _ c _ _ (crash_all_append _ _ _ c _ _ (crash_creates b c hf) (crash_writes b chunks []))
    (fun c' h => crash_removes b [tmp b, dat b] c' (crash_Writing_Empty b _ c' h))

/-- `FreshFor` is satisfiable. -/
example (b : String) : FreshFor {} b := by
  simp [FreshFor, FS.lookup]

end BloomVerif.Crash
