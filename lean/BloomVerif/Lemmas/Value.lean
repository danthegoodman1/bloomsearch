/- gjson's first-binding and encoding/json's last-binding materialisation are both the identity on
   rows without duplicated keys; the operation trace of a block scan on a pooled buffer as a `flatMap`
   over the row range, and what that says of its members. -/
import BloomVerif.Model.Value
namespace BloomVerif

/-- With pairwise distinct keys neither deduplication finds anything to drop. -/
theorem dedup_of_nodup : ∀ kvs : List (Str × J), (kvs.map (·.1)).Nodup →
    dedupFirst kvs = kvs ∧ dedupLast kvs = kvs
  | [], _ => ⟨rfl, rfl⟩
  | (k, v) :: r, h => by
    obtain ⟨hk, hr⟩ := List.nodup_cons.1 h
    have hne : ∀ a ∈ r, a.1 ≠ k := fun _ ha e => hk (e ▸ List.mem_map_of_mem (f := (·.1)) ha)
    have hany : r.any (fun p => p.1 == k) = false := List.any_eq_false.2 fun a ha => by simpa using hne a ha
    have hfil : r.filter (fun p => p.1 != k) = r := List.filter_eq_self.2 fun a ha => by simpa using hne a ha
    simp [dedupFirst, dedupLast, dedup_of_nodup r hr, hany, hfil]

mutual
  /-- Without a repeated key there is nothing to choose between: both materialisations return the tree. -/
  theorem value_id_J : ∀ (t : J), NoDupKeys t → valueFirst t = t ∧ valueLast t = t
    | .obj kvs, h => by
      simp only [valueFirst, valueLast, value_id_KV kvs h.2, dedup_of_nodup _ h.1, and_self]
    | .arr xs, h => by
      simp only [valueFirst, valueLast, value_id_L xs h, and_self]
    | .null, _ | .bool _, _ | .num _, _ | .str _, _ => by simp [valueFirst, valueLast]
  theorem value_id_KV : ∀ (kvs : List (Str × J)), NoDupKeysKV kvs → valueFirstKV kvs = kvs ∧ valueLastKV kvs = kvs
    | [], _ => ⟨rfl, rfl⟩
    | (k, v) :: r, h => by
      simp only [valueFirstKV, valueLastKV, value_id_J v h.1, value_id_KV r h.2, and_self]
  theorem value_id_L : ∀ (xs : List J), NoDupKeysL xs → valueFirstL xs = xs ∧ valueLastL xs = xs
    | [], _ => ⟨rfl, rfl⟩
    | v :: r, h => by
      simp only [valueFirstL, valueLastL, value_id_J v h.1, value_id_L r h.2, and_self]
end

theorem value_agree_KV : ∀ (kvs : List (Str × J)), NoDupKeysKV kvs → valueFirstKV kvs = valueLastKV kvs :=
  fun kvs h => (value_id_KV kvs h).1.trans (value_id_KV kvs h).2.symm
theorem value_agree_L : ∀ (xs : List J), NoDupKeysL xs → valueFirstL xs = valueLastL xs :=
  fun xs h => (value_id_L xs h).1.trans (value_id_L xs h).2.symm

/-- A trace built row by row is the row range, `flatMap`ped. -/
theorem flatMap_range' {α : Type} (f : Nat → List α) (g : Nat → Nat → List α) (h0 : ∀ i, g i 0 = [])
    (hs : ∀ i n, g i (n + 1) = f i ++ g (i + 1) n) : ∀ n i, g i n = (List.range' i n).flatMap f
  | 0, i => h0 i
  | n + 1, i => by rw [hs, flatMap_range' f g h0 hs n, List.range'_succ, List.flatMap_cons]

theorem mem_scanRowsOps {b : Nat} {matched : Nat → Bool} {i n : Nat} {op : ScanOp} :
    op ∈ scanRowsOps b matched i n ↔
      ∃ r ∈ List.range' i n, op = .view b r ∨ matched r = true ∧ op = .copy b r := by
  rw [flatMap_range' (fun r => [.view b r] ++ if matched r then [.copy b r] else []) (scanRowsOps b matched)
    (fun _ => rfl) (fun _ _ => rfl)]
  simp only [List.mem_flatMap, List.mem_append, List.mem_singleton, List.mem_ite_nil_right]

theorem mem_deliveries {matched : Nat → Bool} {i n : Nat} {op : ScanOp} :
    op ∈ deliveries matched i n ↔ ∃ r ∈ List.range' i n, matched r = true ∧ op = .deliver r := by
  rw [flatMap_range' (fun r => if matched r then [.deliver r] else []) (deliveries matched)
    (fun _ => rfl) (fun _ _ => rfl)]
  simp only [List.mem_flatMap, List.mem_singleton, List.mem_ite_nil_right]

theorem noUseAfterPut_append_put (b : Nat) (l : List ScanOp) (h : ∀ op ∈ l, ∀ b', op ≠ .put b') :
    NoUseAfterPut b (l ++ [.put b]) := by
  induction l with
  | nil => simp [NoUseAfterPut]
  | cons op l ih =>
    have ih' := ih (fun o ho => h o (List.mem_cons_of_mem _ ho))
    cases op with
    | put b' => exact absurd rfl (h _ List.mem_cons_self b')
    | _ => simpa [NoUseAfterPut] using ih'

end BloomVerif
