/-
  C16: the directory with its writers implements a status per pointer (`Refines`). One operation concerns
  one pointer, so `Refines.update` reduces each step to the new status of that pointer, the rest being
  framed; `Good` adds what the induction needs of the directory itself.
-/
import BloomVerif.Lemmas.FS
namespace BloomVerif.FSStore

/-- Discipline of the callers the refinement is stated for: a pointer is not tombstoned while its
    writer is still open, and Abort is called only on a writer that is open or published, not on one
    left closed and unpublished. The engine's flush path keeps the first (flush.go `abortFileWriter`
    aborts, then tombstones; the tombstone after a failed `Update` follows Close). It does not keep the
    second: after a failed `writer.Close()` it calls `Abort` (flush.go, `fail(…, true)`), and that path
    is outside the statement; the model has no failing Close of an open writer (fsync and
    directory-fsync errors are not modelled). -/
def Allowed (s : St) : Op → Prop
  | .tombstone b => ∀ w ∈ s.writers, w.base = b → w.closed = true
  | .abort k => ∀ w, s.writers[k]? = some w → (w.closed = false ∨ w.published = true)
  | _ => True

/-- The specification's side of one call: the status of the pointer concerned changes, given the result. -/
def specStep (spec : String → PStatus) (s : St) (op : Op) (res : Res) : String → PStatus :=
  match op, res with
  | .create _, .created b => fun x => if x = b then .writing [] else spec x
  | .write k bs, .ok =>
    (match s.writers[k]? with
     | some w => fun x => if x = w.base then (match spec x with | .writing old => .writing (old ++ bs) | o => o) else spec x
     | none => spec)
  | .close k, .ok =>
    (match s.writers[k]? with
     | some w => fun x => if x = w.base then (match spec x with | .writing bs => .published bs | o => o) else spec x
     | none => spec)
  | .abort k, .ok =>
    (match s.writers[k]? with
     | some w => if w.published then spec else fun x => if x = w.base then .gone else spec x
     | none => spec)
  | .tombstone b, _ => fun x => if x = b then .gone else spec x
  | _, _ => spec

/-- The directory implements the specification. The last conjunct is the index form of the one
    before it (two distinct slots of `writers` never hold open writers of the same base); the value
    form alone does not exclude the same open writer record sitting in two slots. -/
def Refines (s : St) (spec : String → PStatus) : Prop :=
  (∀ b, match spec b with
    | .gone => s.fs.lookup (dat b) = none ∧ s.fs.lookup (tmp b) = none
    | .writing bs => (∃ r, s.fs.lookup (dat b) = some r ∧ s.fs.data r = []) ∧
        (∃ w ∈ s.writers, w.base = b ∧ w.closed = false ∧ s.fs.lookup (tmp b) = some w.ino ∧ s.fs.data w.ino = bs)
    | .published bs => (∃ i, s.fs.lookup (dat b) = some i ∧ s.fs.data i = bs) ∧ s.fs.lookup (tmp b) = none) ∧
  (∀ w ∈ s.writers, w.closed = false → ∃ bs, spec w.base = .writing bs) ∧
  (∀ w1 ∈ s.writers, ∀ w2 ∈ s.writers, w1.closed = false → w2.closed = false → w1.base = w2.base → w1 = w2) ∧
  (∀ (k1 k2 : Nat) (w1 w2 : Writer), s.writers[k1]? = some w1 → s.writers[k2]? = some w2 →
    w1.closed = false → w2.closed = false → w1.base = w2.base → k1 = k2)

/-- A successful CreateFile, whatever collisions the draw sequence produces: the name it settles on was
    free, the two new files are bound to inode numbers that were not allocated, every other path keeps
    its binding and every inode its bytes. -/
theorem createLoop_spec {fs fs' : FS} {draws : List String} {b : String} {i : Nat}
    (h : createLoop fs draws = some (fs', b, i)) :
    fs.lookup (dat b) = none ∧ fs.lookup (tmp b) = none ∧
    (∃ r, fs'.lookup (dat b) = some r ∧ fs.next ≤ r) ∧ fs'.lookup (tmp b) = some i ∧ fs.next ≤ i ∧ i < fs'.next ∧
    (∀ p, p ≠ dat b → p ≠ tmp b → fs'.lookup p = fs.lookup p) ∧ (∀ j, fs'.data j = fs.data j) ∧
    (FSWF fs → FSWF fs') := by
  induction draws generalizing fs with
  | nil => simp [createLoop] at h
  | cons b' rest ih =>
    unfold createLoop at h
    cases h1 : fs.createExcl (dat b') with
    | none => rw [h1] at h; exact ih h
    | some r1 =>
      obtain ⟨fs1, _⟩ := r1
      obtain ⟨hd, _, rfl⟩ := createExcl_some h1
      rw [h1] at h
      simp only at h
      cases h2 : (fs.mk1 (dat b')).createExcl (tmp b') with
      | none =>
        -- an orphaned `.tmp`: the reservation is released and the loop goes on from a directory that
        -- differs from `fs` in `next` only
        rw [h2] at h
        have hsame : ∀ p, ((fs.mk1 (dat b')).remove (dat b')).lookup p = fs.lookup p := by
          intro p
          rw [lookup_remove, lookup_mk1 _ _ _ hd]
          split
          · rename_i e; rw [e, hd]
          · rfl
        obtain ⟨hdatFree, htmpFree, ⟨r, hdat, hdatNew⟩, htmp, htmpNew, hlt, hframe, hbytes, hwf⟩ := ih h
        exact ⟨(hsame _).symm.trans hdatFree, (hsame _).symm.trans htmpFree, ⟨r, hdat, Nat.le_of_succ_le hdatNew⟩, htmp,
          Nat.le_of_succ_le htmpNew, hlt, fun p hpd hpt => (hframe p hpd hpt).trans (hsame p),
          fun j => (hbytes j).trans (data_mk1 fs (dat b') j), fun hw => hwf (FSWF_remove (FSWF_mk1 hw _ hd) _)⟩
      | some r2 =>
        obtain ⟨fs2, i'⟩ := r2
        rw [h2] at h
        simp only [Option.some.injEq, Prod.mk.injEq] at h
        obtain ⟨rfl, rfl, rfl⟩ := h
        obtain ⟨ht, hi, rfl⟩ := createExcl_some h2
        have ht0 : fs.lookup (tmp b') = none := by
          rw [lookup_mk1 _ _ _ hd, if_neg (dat_ne_tmp _ _).symm] at ht; exact ht
        refine ⟨hd, ht0, ⟨fs.next, ?_, Nat.le_refl _⟩, ?_, ?_, ?_, fun p hpd hpt => ?_,
          fun j => (data_mk1 _ (tmp b') j).trans (data_mk1 fs (dat b') j), fun hw => FSWF_mk1 (FSWF_mk1 hw _ hd) _ ht⟩
        · rw [lookup_mk1 _ _ _ ht, if_neg (dat_ne_tmp _ _), lookup_mk1 _ _ _ hd, if_pos rfl]
        · rw [lookup_mk1 _ _ _ ht, if_pos rfl, hi]
        · rw [hi]; exact Nat.le_succ _
        · rw [hi]; exact Nat.lt_succ_self _
        · rw [lookup_mk1 _ _ _ ht, if_neg hpt, lookup_mk1 _ _ _ hd, if_neg hpd]

/-- What the directory must look like for one pointer in a given specification status: the first conjunct
    of `Refines`, for one `b`. -/
def PtrOK (s : St) (st : PStatus) (b : String) : Prop :=
  match st with
  | .gone => s.fs.lookup (dat b) = none ∧ s.fs.lookup (tmp b) = none
  | .writing bs => (∃ r, s.fs.lookup (dat b) = some r ∧ s.fs.data r = []) ∧
      (∃ w ∈ s.writers, w.base = b ∧ w.closed = false ∧ s.fs.lookup (tmp b) = some w.ino ∧ s.fs.data w.ino = bs)
  | .published bs => (∃ i, s.fs.lookup (dat b) = some i ∧ s.fs.data i = bs) ∧ s.fs.lookup (tmp b) = none

def OpenAt (s : St) (k : Nat) (w : Writer) : Prop := s.writers[k]? = some w ∧ w.closed = false

theorem OpenAt.mem {s : St} {k : Nat} {w : Writer} (h : OpenAt s k w) : w ∈ s.writers :=
  List.mem_iff_getElem?.2 ⟨k, h.1⟩

theorem openAt_of_mem {s : St} {w : Writer} (hm : w ∈ s.writers) (ho : w.closed = false) : ∃ k, OpenAt s k w :=
  (List.mem_iff_getElem?.1 hm).imp fun _ hk => ⟨hk, ho⟩

theorem Refines.ptr {s : St} {spec : String → PStatus} (h : Refines s spec) (b : String) :
    PtrOK s (spec b) b := h.1 b
theorem Refines.open_status {s : St} {spec : String → PStatus} (h : Refines s spec) {k : Nat} {w : Writer}
    (ho : OpenAt s k w) : ∃ bs, spec w.base = .writing bs := h.2.1 w ho.mem ho.2
theorem Refines.open_unique {s : St} {spec : String → PStatus} (h : Refines s spec) :
    ∀ w1 ∈ s.writers, ∀ w2 ∈ s.writers, w1.closed = false → w2.closed = false → w1.base = w2.base → w1 = w2 := h.2.2.1
theorem Refines.slot_unique {s : St} {spec : String → PStatus} (h : Refines s spec) {k1 k2 : Nat} {w1 w2 : Writer}
    (h1 : OpenAt s k1 w1) (h2 : OpenAt s k2 w2) (hb : w1.base = w2.base) : k1 = k2 :=
  h.2.2.2 k1 k2 w1 w2 h1.1 h2.1 h1.2 h2.2 hb

theorem idx_to_mem {ws : List Writer}
    (h : ∀ (k1 k2 : Nat) (w1 w2 : Writer), ws[k1]? = some w1 → ws[k2]? = some w2 →
      w1.closed = false → w2.closed = false → w1.base = w2.base → k1 = k2) :
    ∀ w1 ∈ ws, ∀ w2 ∈ ws, w1.closed = false → w2.closed = false → w1.base = w2.base → w1 = w2 := by
  intro w1 h1 w2 h2 c1 c2 hb
  obtain ⟨k1, e1⟩ := List.mem_iff_getElem?.1 h1
  obtain ⟨k2, e2⟩ := List.mem_iff_getElem?.1 h2
  have := h k1 k2 w1 w2 e1 e2 c1 c2 hb
  subst this
  rw [e1] at e2
  exact Option.some.inj e2

theorem PtrOK.frame {s s' : St} {st : PStatus} {b : String} (h : PtrOK s st b)
    (hd : s'.fs.lookup (dat b) = s.fs.lookup (dat b))
    (ht : s'.fs.lookup (tmp b) = s.fs.lookup (tmp b))
    (hdata : ∀ j, (s.fs.lookup (dat b) = some j ∨ s.fs.lookup (tmp b) = some j) → s'.fs.data j = s.fs.data j)
    (hwri : ∀ w ∈ s.writers, w.base = b → w.closed = false → w ∈ s'.writers) : PtrOK s' st b := by
  cases st with
  | gone => simp only [PtrOK] at h ⊢; rw [hd, ht]; exact h
  | writing bs =>
    obtain ⟨⟨r, hr1, hr2⟩, w, hw1, hw2, hw3, hw4, hw5⟩ := h
    refine ⟨⟨r, by rw [hd]; exact hr1, by rw [hdata r (Or.inl hr1)]; exact hr2⟩, w, hwri w hw1 hw2 hw3, hw2, hw3,
      by rw [ht]; exact hw4, by rw [hdata _ (Or.inr hw4)]; exact hw5⟩
  | published bs =>
    obtain ⟨⟨r, hr1, hr2⟩, h2⟩ := h
    exact ⟨⟨r, by rw [hd]; exact hr1, by rw [hdata r (Or.inl hr1)]; exact hr2⟩, by rw [ht]; exact h2⟩

theorem open_view {s : St} {spec : String → PStatus} (hr : Refines s spec) {k : Nat} {w : Writer} (h : OpenAt s k w) :
    ∃ old r, spec w.base = .writing old ∧ s.fs.lookup (dat w.base) = some r ∧ s.fs.data r = [] ∧
      s.fs.lookup (tmp w.base) = some w.ino ∧ s.fs.data w.ino = old := by
  obtain ⟨old, hs⟩ := hr.open_status h
  have hp := hr.ptr w.base
  rw [hs] at hp
  obtain ⟨⟨r, hr1, hr2⟩, w', hw1, hw2, hw3, hw4, hw5⟩ := hp
  have : w' = w := hr.open_unique w' hw1 w h.mem hw3 h.2 hw2
  subst this
  exact ⟨old, r, hs, hr1, hr2, hw4, hw5⟩

/-- **Frame.** One operation concerns one pointer `b0`, whose status becomes `f b0`: paths other than
    `b0.dat`/`b0.tmp` keep their binding and the bytes behind it, open writers of other pointers stay in
    their slots, and no slot gains an open writer of another pointer. Then it is enough to establish the
    new status of `b0`. -/
theorem Refines.update {s s' : St} {spec : String → PStatus} (hr : Refines s spec) (b0 : String) {f : String → PStatus}
    (hfs : ∀ p, p ≠ dat b0 → p ≠ tmp b0 → s'.fs.lookup p = s.fs.lookup p)
    (hdata : ∀ p j, p ≠ dat b0 → p ≠ tmp b0 → s.fs.lookup p = some j → s'.fs.data j = s.fs.data j)
    (hold : ∀ k w, OpenAt s' k w → w.base ≠ b0 → OpenAt s k w)
    (hkeep : ∀ w ∈ s.writers, w.closed = false → w.base ≠ b0 → w ∈ s'.writers)
    (hptr : PtrOK s' (f b0) b0)
    (hown : ∀ k w, OpenAt s' k w → w.base = b0 →
      (∃ bs, f b0 = .writing bs) ∧ ∀ k2 w2, OpenAt s' k2 w2 → w2.base = b0 → k = k2) :
    Refines s' fun x => if x = b0 then f x else spec x := by
  have h4 : ∀ (k1 k2 : Nat) (w1 w2 : Writer), s'.writers[k1]? = some w1 → s'.writers[k2]? = some w2 →
      w1.closed = false → w2.closed = false → w1.base = w2.base → k1 = k2 := by
    intro k1 k2 w1 w2 h1 h2 o1 o2 hb
    by_cases hx : w1.base = b0
    · exact (hown k1 w1 ⟨h1, o1⟩ hx).2 k2 w2 ⟨h2, o2⟩ (hb ▸ hx)
    · exact hr.slot_unique (hold k1 w1 ⟨h1, o1⟩ hx) (hold k2 w2 ⟨h2, o2⟩ (hb ▸ hx)) hb
  refine ⟨fun x => ?_, fun w hm ho => ?_, idx_to_mem h4, h4⟩
  · show PtrOK s' (if x = b0 then f x else spec x) x
    by_cases hx : x = b0
    · rw [if_pos hx, hx]; exact hptr
    · rw [if_neg hx]
      have hd : dat x ≠ dat b0 := fun e => hx (dat_inj e)
      have ht : tmp x ≠ tmp b0 := fun e => hx (tmp_inj e)
      have htd : tmp x ≠ dat b0 := (dat_ne_tmp b0 x).symm
      refine (hr.ptr x).frame (hfs _ hd (dat_ne_tmp x b0)) (hfs _ htd ht) ?_ ?_
      · rintro j (hj | hj)
        · exact hdata _ j hd (dat_ne_tmp x b0) hj
        · exact hdata _ j htd ht hj
      · intro w hm hb ho; exact hkeep w hm ho (by rw [hb]; exact hx)
  · obtain ⟨k, hk⟩ := openAt_of_mem hm ho
    show ∃ bs, (if w.base = b0 then f w.base else spec w.base) = _
    by_cases hx : w.base = b0
    · rw [if_pos hx, hx]; exact (hown k w hk hx).1
    · rw [if_neg hx]; exact hr.open_status (hold k w hk hx)

/-- Closing slot `k` leaves the open writers of the other slots, and `k` held the only open writer of
    its pointer: none is left. -/
theorem openAt_set_closed {s : St} {spec : String → PStatus} (hr : Refines s spec) {k : Nat} {w x : Writer}
    (hk : OpenAt s k w) (hx : x.closed = true) {fs' : FS} {j : Nat} {w' : Writer}
    (h : OpenAt ⟨fs', s.writers.set k x⟩ j w') : OpenAt s j w' ∧ w'.base ≠ w.base := by
  have hj : (s.writers.set k x)[j]? = some w' := h.1
  rw [List.getElem?_set] at hj
  split at hj
  · split at hj
    · cases hj; exact absurd hx (by rw [h.2]; exact Bool.false_ne_true)
    · cases hj
  · rename_i hne
    exact ⟨⟨hj, h.2⟩, fun e => hne (hr.slot_unique ⟨hj, h.2⟩ hk e).symm⟩

/-- The writers' side of Close and Abort: slot `k` is closed, the directory changes at its pointer only. -/
theorem Refines.update_closed {s : St} {spec : String → PStatus} (hr : Refines s spec)
    {k : Nat} {w x : Writer} (hk : OpenAt s k w) (hx : x.closed = true) {fs' : FS} {f : String → PStatus}
    (hfs : ∀ p, p ≠ dat w.base → p ≠ tmp w.base → fs'.lookup p = s.fs.lookup p)
    (hdata : ∀ j, fs'.data j = s.fs.data j)
    (hptr : PtrOK ⟨fs', s.writers.set k x⟩ (f w.base) w.base) :
    Refines ⟨fs', s.writers.set k x⟩ fun b => if b = w.base then f b else spec b := by
  refine hr.update w.base hfs (fun _ j _ _ _ => hdata j) (fun _ _ h _ => (openAt_set_closed hr hk hx h).1)
    ?_ hptr (fun _ _ h hb => absurd hb (openAt_set_closed hr hk hx h).2)
  intro w' hm _ hb
  obtain ⟨j, hj⟩ := List.mem_iff_getElem?.1 hm
  have : k ≠ j := by
    intro e; subst e; rw [hk.1] at hj; cases hj; exact hb rfl
  exact List.mem_iff_getElem?.2 ⟨j, by rw [List.getElem?_set, if_neg this]; exact hj⟩

theorem openAt_append {s : St} {fs' : FS} {x w : Writer} {k : Nat} (h : OpenAt ⟨fs', s.writers ++ [x]⟩ k w) :
    OpenAt s k w ∨ (k = s.writers.length ∧ w = x) := by
  obtain ⟨h1, h2⟩ := h
  simp only [List.getElem?_append] at h1
  split at h1
  · exact Or.inl ⟨h1, h2⟩
  · obtain ⟨hl, he⟩ := List.getElem?_eq_some_iff.1 h1
    simp only [List.length_cons, List.length_nil] at hl
    have : k = s.writers.length := by omega
    subst this
    simp only [Nat.sub_self] at he
    exact Or.inr ⟨rfl, he.symm⟩

theorem ino_lt_set {l : List Writer} {k n : Nat} {w x : Writer} (hk : l[k]? = some w) (hx : x.ino = w.ino)
    (h : ∀ a ∈ l, a.ino < n) : ∀ a ∈ l.set k x, a.ino < n := by
  intro a hm
  rcases List.mem_or_eq_of_mem_set hm with h' | h'
  · exact h a h'
  · rw [h', hx]; exact h w (List.mem_iff_getElem?.2 ⟨k, hk⟩)

/-- The inductive invariant: the refinement, a well-formed directory, and every writer's inode allocated
    (so it has a data entry, and a write through the handle takes effect). -/
structure Good (s : St) (spec : String → PStatus) : Prop where
  refines : Refines s spec
  wf : FSWF s.fs
  ino_lt : ∀ w ∈ s.writers, w.ino < s.fs.next

theorem Good.step {s : St} {spec : String → PStatus} (hg : Good s spec) {op : Op} (ha : Allowed s op) :
    Good (step s op).1 (specStep spec s op (step s op).2) := by
  have ⟨hr, hw, hwr⟩ := hg
  cases op with
  | create draws =>
    cases hc : createLoop s.fs draws with
    | none => simp only [FSStore.step, hc]; exact hg
    | some r =>
      obtain ⟨fs', b, i⟩ := r
      simp only [FSStore.step, hc, specStep]
      obtain ⟨hdatFree, htmpFree, ⟨r, hdat, hdatNew⟩, htmp, htmpNew, hlt, hframe, hbytes, hwf⟩ := createLoop_spec hc
      -- the name was free, so no open writer already uses the base, and the new slot is the only one that does
      have hnob : ∀ k w, OpenAt s k w → w.base ≠ b := by
        intro k w h e
        obtain ⟨old, r', _, h2, _⟩ := open_view hr h
        rw [e, hdatFree] at h2; cases h2
      have hslot : ∀ k w, OpenAt ⟨fs', s.writers ++ [⟨b, i, false, false⟩]⟩ k w → w.base = b → k = s.writers.length :=
        fun k w h hb => (openAt_append h).elim (fun h' => absurd hb (hnob k w h')) (·.1)
      refine ⟨hr.update b hframe (fun _ j _ _ _ => hbytes j) ?_
        (fun _ hm _ _ => List.mem_append_left _ hm) ?_ ?_, hwf hw, ?_⟩
      · intro k w h hb
        exact (openAt_append h).elim id (fun h' => absurd (by rw [h'.2]) hb)
      · -- the two new inodes were not allocated, so they are empty
        exact ⟨⟨r, hdat, (hbytes r).trans (data_fresh hw.inode_lt hdatNew)⟩, ⟨b, i, false, false⟩, by simp, rfl, rfl, htmp,
          (hbytes i).trans (data_fresh hw.inode_lt htmpNew)⟩
      · intro k w h hb
        exact ⟨⟨[], rfl⟩, fun k2 w2 h2 hb2 => (hslot k w h hb).trans (hslot k2 w2 h2 hb2).symm⟩
      · intro w hm
        rcases List.mem_append.1 hm with hm | hm
        · exact Nat.lt_trans (Nat.lt_of_lt_of_le (hwr w hm) htmpNew) hlt
        · rw [List.mem_singleton.1 hm]; exact hlt
  | write k bs =>
    cases hk : s.writers[k]? with
    | none => simp only [FSStore.step, hk]; exact hg
    | some w =>
      cases hc : w.closed with
      | true => simp [FSStore.step, hk, hc]; exact hg
      | false =>
        obtain ⟨old, r, hst, hdat, hres, htmp, hbytes⟩ := open_view hr ⟨hk, hc⟩
        simp only [FSStore.step, hk, specStep, hc, Bool.false_eq_true, if_false]
        have hm : w ∈ s.writers := List.mem_iff_getElem?.2 ⟨k, hk⟩
        -- `w.ino` is bound to `w.base.tmp` and, there being no hard links, to no other path
        have hne : ∀ p j, p ≠ tmp w.base → s.fs.lookup p = some j → j ≠ w.ino :=
          fun p j hp hj e => hp (hw.inj _ _ _ (e ▸ hj) htmp)
        refine ⟨hr.update w.base (fun _ _ _ => rfl) ?_ (fun _ _ h _ => h) (fun _ hm' _ _ => hm') ?_ ?_,
          FSWF_append hw _ _, hwr⟩
        · intro p j _ ht hj; exact data_append_ne _ _ _ _ (hne p j ht hj)
        · rw [hst]
          refine ⟨⟨r, hdat, ?_⟩, w, hm, rfl, hc, htmp, ?_⟩
          · rw [data_append_ne _ _ _ _ (hne _ r (dat_ne_tmp _ _) hdat), hres]
          · rw [data_append_self _ _ _ (hw.entry w.ino (hwr w hm)), hbytes]
        · intro k1 w1 h1 hb
          exact ⟨⟨_, by rw [hst]⟩, fun k2 w2 h2 hb2 => hr.slot_unique h1 h2 (hb.trans hb2.symm)⟩
  | close k =>
    cases hk : s.writers[k]? with
    | none => simp only [FSStore.step, hk]; exact hg
    | some w =>
      cases hc : w.closed with
      | true => simp [FSStore.step, hk, hc]; exact hg
      | false =>
        obtain ⟨old, r, hst, hdat, hres, htmp, hbytes⟩ := open_view hr ⟨hk, hc⟩
        simp only [FSStore.step, hk, specStep, hc, Bool.false_eq_true, if_false, rename_eq htmp]
        refine ⟨hr.update_closed ⟨hk, hc⟩ rfl ?_ (fun _ => rfl) ?_,
          FSWF_mv hw htmp _, ino_lt_set hk rfl hwr⟩
        · intro p hd ht; rw [lookup_mv, if_neg hd, if_neg ht]
        · rw [hst]
          refine ⟨⟨w.ino, ?_, hbytes⟩, ?_⟩
          · rw [lookup_mv, if_pos rfl]
          · rw [lookup_mv, if_neg (dat_ne_tmp _ _).symm, if_pos rfl]
  | abort k =>
    cases hk : s.writers[k]? with
    | none => simp only [FSStore.step, hk]; exact hg
    | some w =>
      cases hp : w.published with
      | true => simp [FSStore.step, hk, specStep, hp]; exact hg
      | false =>
        have hc : w.closed = false := (ha w hk).resolve_right (by rw [hp]; exact Bool.false_ne_true)
        simp only [FSStore.step, hk, specStep, hp, Bool.false_eq_true, if_false]
        -- Abort removes `.tmp` first, TombstoneFile `.dat` first; the result is the same
        rw [remove_comm]
        obtain ⟨t1, t2, t3⟩ := lookup_remove_ptr s.fs w.base
        exact ⟨hr.update_closed ⟨hk, hc⟩ rfl t3 (fun _ => rfl) ⟨t1, t2⟩,
          FSWF_remove (FSWF_remove hw _) _, ino_lt_set hk rfl hwr⟩
  | tombstone b =>
    simp only [FSStore.step, specStep]
    obtain ⟨t1, t2, t3⟩ := lookup_remove_ptr s.fs b
    refine ⟨hr.update b t3 (fun _ _ _ _ _ => rfl) (fun _ _ h _ => h) (fun _ hm _ _ => hm) ⟨t1, t2⟩ ?_,
      FSWF_remove (FSWF_remove hw _) _, hwr⟩
    -- the discipline: no writer of `b` is open
    intro k w h hb
    exact absurd (ha w h.mem hb) (by rw [h.2]; exact Bool.false_ne_true)
  | open_ b =>
    simp only [FSStore.step, specStep]
    split <;> exact hg

end BloomVerif.FSStore
