/-
  The merge key bytes determine the partition and the set of key names. `uvarint` is prefix-free, so a
  length-prefixed string can be split off the front of any byte list (`lenPrefixed_append_inj`) and the encoding
  is uniquely decodable; and sorting by the total bytewise order sends permutations to the same list.
-/
import BloomVerif.Model.MergeKey
namespace BloomVerif.MergeKey

theorem uvarint_ne_nil (n : Nat) : uvarint n ≠ [] := by
  unfold uvarint; split <;> simp

theorem uvarint_append_inj (a b : Nat) (r r' : List Nat)
    (h : uvarint a ++ r = uvarint b ++ r') : a = b ∧ r = r' := by
  induction a using Nat.strongRecOn generalizing b with
  | _ a ih =>
    rw [uvarint.eq_def a, uvarint.eq_def b] at h
    by_cases ha : a < 128 <;> by_cases hb : b < 128 <;> simp only [ha, hb, if_true, if_false, List.cons_append, List.cons.injEq] at h
    · exact ⟨h.1, h.2⟩
    · omega
    · omega
    · obtain ⟨h1, h2⟩ := h
      have := ih (a / 128) (by omega) (b / 128) h2
      exact ⟨by omega, this.2⟩

theorem lenPrefixed_append_inj (s s' r r' : List Nat)
    (h : lenPrefixed s ++ r = lenPrefixed s' ++ r') : s = s' ∧ r = r' := by
  unfold lenPrefixed at h
  rw [List.append_assoc, List.append_assoc] at h
  obtain ⟨hl, h2⟩ := uvarint_append_inj _ _ _ _ h
  exact List.append_inj h2 hl

theorem lenPrefixed_ne_nil (s : List Nat) : lenPrefixed s ≠ [] := by
  unfold lenPrefixed; simp [uvarint_ne_nil]

theorem flatMap_lenPrefixed_inj (ks ks' : List (List Nat))
    (h : ks.flatMap lenPrefixed = ks'.flatMap lenPrefixed) : ks = ks' := by
  induction ks generalizing ks' with
  | nil =>
    cases ks' with
    | nil => rfl
    | cons k ks' => simp [lenPrefixed_ne_nil] at h
  | cons k ks ih =>
    cases ks' with
    | nil => simp [lenPrefixed_ne_nil] at h
    | cons k' ks' =>
      obtain ⟨h1, h2⟩ := lenPrefixed_append_inj _ _ _ _ h
      rw [h1, ih _ h2]

theorem leBytes_total (a b : List Nat) : leBytes a b || leBytes b a := by
  simp only [leBytes, Bool.or_eq_true, decide_eq_true_eq]
  exact List.le_total a b

theorem leBytes_trans (a b c : List Nat) : leBytes a b → leBytes b c → leBytes a c := by
  simp only [leBytes, decide_eq_true_eq]
  exact List.le_trans

theorem leBytes_antisymm (a b : List Nat) : leBytes a b → leBytes b a → a = b := by
  simp only [leBytes, decide_eq_true_eq]
  exact List.le_antisymm

theorem sort_canonical (ks ks' : List (List Nat)) (h : ks.Perm ks') :
    ks.mergeSort leBytes = ks'.mergeSort leBytes := by
  apply List.Perm.eq_of_pairwise (le := fun a b => leBytes a b = true)
  · intro a b _ _ h1 h2; exact leBytes_antisymm a b h1 h2
  · exact List.pairwise_mergeSort (fun a b c => leBytes_trans a b c) (fun a b => leBytes_total a b) ks
  · exact List.pairwise_mergeSort (fun a b c => leBytes_trans a b c) (fun a b => leBytes_total a b) ks'
  · exact (List.mergeSort_perm ks _).trans (h.trans (List.mergeSort_perm ks' _).symm)

end BloomVerif.MergeKey
