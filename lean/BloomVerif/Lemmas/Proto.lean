/- Everything C06 says of a flush and C13 of a merge, each by one case analysis on the first failing call. -/
import BloomVerif.Model.FlushProto
namespace BloomVerif.Proto

structure FlushSpec (blocks : Nat) (fail : Nat → Bool) (o : FlushOut) : Prop where
  ack : o.ackOk = flushEssential blocks fail
  committed : o.committed = o.ackOk
  clean : o.ackOk = true → o.published = true ∧ o.tombstoned = false ∧
    o.calls = [.create] ++ List.replicate (flushWrites blocks) .write ++ [.close, .update]
  cleanup : o.ackOk = false → (fail 0 = false → o.tombstoned = true) ∧ (fail 0 = true → o.calls = [.create])

/-- By cases on the first failing call: CreateFile, a write, Close, Update, none. -/
theorem flush_spec (blocks : Nat) (hasAbort : Bool) (fail : Nat → Bool) :
    FlushSpec blocks fail (flush blocks hasAbort fail) := by
  have e : 1 + flushWrites blocks + 1 = 2 + flushWrites blocks := by omega
  unfold flush
  by_cases h0 : fail 0 = true
  · constructor <;> simp [flushEssential, h0]
  · cases hw : firstFailingWrite fail 1 (flushWrites blocks) with
    | some k => constructor <;> simp [flushEssential, h0, hw]
    | none =>
      by_cases hc : fail (1 + flushWrites blocks) = true
      · constructor <;> simp [flushEssential, h0, hw, hc]
      · by_cases hu : fail (2 + flushWrites blocks) = true
        · constructor <;> simp [flushEssential, h0, hw, hc, e, hu]
        · constructor <;> simp [flushEssential, h0, hw, hc, e, hu]

theorem mergeGroups_no_fault (i d : Nat) (gs : List (List Call)) :
    mergeGroups (fun _ => false) i d gs = none := by
  induction gs generalizing i d with
  | nil => simp [mergeGroups]
  | cons g gs ih =>
    have hf : List.find? (fun _ => false) (List.range g.length) = none := by
      simp [List.find?_eq_none]
    simp [mergeGroups, ih, hf]

theorem mergeGroups_some_bound (fail : Nat → Bool) (i done : Nat) (gs : List (List Call)) (d j : Nat)
    (h : mergeGroups fail i done gs = some (d, j)) : done ≤ d ∧ d < done + gs.length := by
  induction gs generalizing i done with
  | nil => simp [mergeGroups] at h
  | cons g gs ih =>
    unfold mergeGroups at h
    split at h
    · -- the fault is in this group
      obtain ⟨rfl, _⟩ : done = d ∧ _ := by simpa using h
      simp
    · -- it is in a later one
      have := ih _ _ h
      simp only [List.length_cons]
      omega

structure MergeSpec (p : MergePlanCalls) (fail : Nat → Bool) (o : MergeOut) : Prop where
  atomic : (o.committed = true ∧ o.outputsTombstoned = 0 ∧ o.sourcesTombstoneCalls = p.sources ∧ o.result ≠ .err) ∨
    (o.committed = false ∧ o.sourcesTombstoneCalls = 0 ∧ (o.result = .err ∨ (p.groups = [] ∧ o.result = .ok)))
  ok : p.groups ≠ [] → (o.result = .ok ↔
    (o.committed = true ∧ (List.range p.sources).all (fun j => !fail (1 + totalCalls p.groups + 1 + j)) = true))
  postCommit : o.result = .postCommitErr ↔
    (o.committed = true ∧ (List.range p.sources).any (fun j => fail (1 + totalCalls p.groups + 1 + j)) = true)
  orphans : o.committed = false → o.outputsTombstoned ≤ p.groups.length

/-- By cases on the first failing call: the iterator, a call of a group, Update, a source tombstone, none. -/
theorem merge_spec (p : MergePlanCalls) (fail : Nat → Bool) : MergeSpec p fail (merge p fail) := by
  unfold merge
  by_cases h0 : fail 0 = true
  · constructor <;> simp [h0]
  · by_cases hg : p.groups = []
    · constructor <;> simp [h0, hg]
    · have hne : p.groups.isEmpty = false := by simpa [List.isEmpty_iff] using hg
      cases hm : mergeGroups fail 1 0 p.groups with
      | some dj =>
        have hb := mergeGroups_some_bound fail 1 0 p.groups dj.1 dj.2 hm
        constructor <;> simp [h0, hne]
        case orphans => split <;> omega
      | none =>
        by_cases hu : fail (1 + totalCalls p.groups) = true
        · constructor <;> simp [h0, hne, hu]
        · by_cases ht : (List.range p.sources).any (fun j => fail (1 + totalCalls p.groups + 1 + j)) = true
          · constructor <;> simp [h0, hne, hg, hu, ht]
            case ok => simpa using ht
          · constructor <;> simp [h0, hne, hg, hu, ht]
            case ok => simpa using ht

theorem merge_no_fault_aux (p : MergePlanCalls) (hg : p.groups ≠ []) :
    (merge p (fun _ => false)).committed = true ∧ (merge p (fun _ => false)).result = .ok := by
  have hne : p.groups.isEmpty = false := by simpa [List.isEmpty_iff] using hg
  simp [merge, hne, mergeGroups_no_fault]

end BloomVerif.Proto
