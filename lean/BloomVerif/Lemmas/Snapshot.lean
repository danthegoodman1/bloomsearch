/-
  The invariants behind C14. `MemInv`: the committed files hold exactly the acknowledged rows, each once, and
  what a query has delivered plus what its unopened files hold is a permutation of the matching rows that
  were acknowledged when it took its snapshot. `DirInv` (no removals): every acknowledged row is in a live
  file, and every matching row acknowledged when the query began is delivered or in a live file that, once
  the directory is listed, is still to open.
-/
import BloomVerif.Model.Snapshot
import BloomVerif.Lemmas.Run
namespace BloomVerif.Snapshot

def snap_content (pub : List (FileId × List Row)) (f : FileId) : List Row := (pub.lookup f).getD []
def snap_rows (pub : List (FileId × List Row)) (fs : List FileId) : List Row := fs.flatMap (snap_content pub)

theorem snap_rowsOf_eq (s : St) (fs : List FileId) : s.rowsOf fs = snap_rows s.pub fs := rfl
theorem snap_content_eq (s : St) (f : FileId) : s.content f = snap_content s.pub f := rfl

theorem nodup_append_of {α : Type} {l₁ l₂ : List α} (h₁ : l₁.Nodup) (h₂ : l₂.Nodup) (h : ∀ a ∈ l₁, a ∉ l₂) :
    (l₁ ++ l₂).Nodup :=
  List.nodup_append.2 ⟨h₁, h₂, fun a ha _ hb e => h a ha (e ▸ hb)⟩

/-- Taking the files `l'` out of `l` by a filter takes their rows out: `l'` is any duplicate-free list of members
    of `l` that holds exactly what `p` rejects. -/
theorem flatMap_filter_perm {β : Type} (g : FileId → List β) (p : FileId → Bool) (l l' : List FileId)
    (hn : l.Nodup) (hn' : l'.Nodup) (hsub : ∀ a ∈ l', a ∈ l) (hp : ∀ a, p a = false ↔ a ∈ l') :
    (l.flatMap g).Perm ((l.filter p).flatMap g ++ l'.flatMap g) := by
  rw [← List.flatMap_append]
  refine List.Perm.flatMap_right g ((List.filter_append_perm p l).symm.trans (List.Perm.append_left _ ?_))
  rw [List.perm_ext_iff_of_nodup (List.Nodup.sublist List.filter_sublist hn) hn']
  intro a
  rw [List.mem_filter, Bool.not_eq_true', hp a]
  exact ⟨And.right, fun h => ⟨hsub a h, h⟩⟩

theorem sameRows_perm {a b : List Row} (h : sameRows a b = true) : a.Perm b := by
  unfold sameRows at h
  simp only [Bool.and_eq_true, List.all_eq_true, beq_iff_eq] at h
  refine List.perm_iff_count.2 fun r => ?_
  by_cases ha : r ∈ a
  · exact h.1 r ha
  · by_cases hb : r ∈ b
    · exact h.2 r hb
    · rw [List.count_eq_zero_of_not_mem ha, List.count_eq_zero_of_not_mem hb]

theorem lookup_publish (pub : List (FileId × List Row)) (f : FileId) (rows : List Row) (g : FileId)
    (h : (pub.lookup g).isSome) : (pub ++ [(f, rows)]).lookup g = pub.lookup g := by
  rw [List.lookup_append, Option.or_of_isSome h]

theorem content_publish (pub : List (FileId × List Row)) (f : FileId) (rows : List Row) (g : FileId)
    (h : (pub.lookup g).isSome) : snap_content (pub ++ [(f, rows)]) g = snap_content pub g :=
  congrArg (·.getD []) (lookup_publish pub f rows g h)

theorem rows_publish (pub : List (FileId × List Row)) (f : FileId) (rows : List Row) (fs : List FileId)
    (h : ∀ g ∈ fs, (pub.lookup g).isSome) : snap_rows (pub ++ [(f, rows)]) fs = snap_rows pub fs := by
  unfold snap_rows
  rw [List.flatMap_def, List.flatMap_def, List.map_congr_left (fun g hg => content_publish pub f rows g (h g hg))]

theorem live_pub_publish (pub : List (FileId × List Row)) (live : List FileId) (f : FileId) (rows : List Row)
    (h : ∀ g ∈ live, (pub.lookup g).isSome) : ∀ g ∈ live ++ [f], ((pub ++ [(f, rows)]).lookup g).isSome := by
  intro g hg
  rw [List.lookup_append, Option.isSome_or]
  rcases List.mem_append.1 hg with hg | hg
  · rw [h g hg]; rfl
  · cases List.mem_singleton.1 hg
    rw [List.lookup_cons_self]; exact Bool.or_true _

/-- `Dir.step` takes `publish` and `qBegin` by the same term as `Mem.step`: this and `step_qBegin` serve both. -/
theorem step_publish {m : Row → Bool} {s s' : St} {f : FileId} {rows : List Row}
    (h : Mem.step m s (.publish f rows) = some s') :
    s' = { s with pub := s.pub ++ [(f, rows)], live := s.live ++ [f] } := by
  simp only [Mem.step, Option.ite_none_left_eq_some, Option.some.injEq] at h
  exact h.2.symm

theorem step_qBegin {m : Row → Bool} {s s' : St} (h : Mem.step m s .qBegin = some s') :
    s' = { s with q := some { ackedAtStart := s.acked } } := by
  cases hq : s.q with
  | some q => simp [Mem.step, hq] at h
  | none => simp only [Mem.step, hq, Option.some.injEq] at h; exact h.symm

/-- What holds of a running query that has met no error. `A` is its ledger: from the snapshot on, the rows
    acknowledged when it was taken (before, any part of `acked` that holds `ackedAtStart`); it never changes
    afterwards, and `got_perm` is the statement of C14 in the making. -/
structure QueryInv (m : Row → Bool) (pub : List (FileId × List Row)) (acked : List Row) (q : Query)
    (A : List Row) : Prop where
  sub : A.Sublist acked
  start_in : ∀ r ∈ q.ackedAtStart, r ∈ A
  todo_pub : ∀ f ∈ q.todo, (pub.lookup f).isSome
  todo_nodup : q.todo.Nodup
  nosnap : q.snap = none → q.got = []
  got_perm : q.snap.isSome → (q.got ++ (snap_rows pub q.todo).filter m).Perm (A.filter m)

/-- `rows_perm` with `acked_nodup`: every acknowledged row is in exactly one committed file, once. A merge
    keeps it because it commits the same rows (`sameRows`), a flush because its rows are new. -/
structure MemInv (m : Row → Bool) (s : St) : Prop where
  live_pub : ∀ f ∈ s.live, (s.pub.lookup f).isSome
  com_nodup : s.committed.Nodup
  com_live : ∀ f ∈ s.committed, f ∈ s.live
  rows_perm : (snap_rows s.pub s.committed).Perm s.acked
  acked_nodup : s.acked.Nodup
  qinv : ∀ q, s.q = some q → q.err = false → ∃ A, QueryInv m s.pub s.acked q A

theorem QueryInv.publish {m : Row → Bool} {pub : List (FileId × List Row)} {acked : List Row} {q : Query}
    {A : List Row} (f : FileId) (rows : List Row) (h : QueryInv m pub acked q A) :
    QueryInv m (pub ++ [(f, rows)]) acked q A :=
  { h with
    todo_pub := fun g hg => by rw [lookup_publish pub f rows g (h.todo_pub g hg)]; exact h.todo_pub g hg
    got_perm := rows_publish pub f rows q.todo h.todo_pub ▸ h.got_perm }

theorem MemInv.set_q {m : Row → Bool} {s : St} (hi : MemInv m s) (q' : Query)
    (hq : q'.err = false → ∃ A, QueryInv m s.pub s.acked q' A) : MemInv m { s with q := some q' } :=
  { hi with qinv := fun _ h => by cases h; exact hq }

theorem MemInv.step (m : Row → Bool) (s : St) (e : Ev) (s' : St) (hi : MemInv m s)
    (h : Mem.step m s e = some s') : MemInv m s' := by
  cases e with
  | publish f rows =>
    cases step_publish h
    exact {
      live_pub := live_pub_publish s.pub s.live f rows hi.live_pub
      com_nodup := hi.com_nodup
      com_live := fun g hg => List.mem_append_left _ (hi.com_live g hg)
      rows_perm := rows_publish s.pub f rows _ (fun g hg => hi.live_pub g (hi.com_live g hg)) ▸ hi.rows_perm
      acked_nodup := hi.acked_nodup
      qinv := fun q hq he => (hi.qinv q hq he).imp fun _ hA => hA.publish f rows }
  | commitFlush f =>
    simp only [Mem.step, Option.ite_none_right_eq_some, Option.some.injEq] at h
    obtain ⟨hg, rfl⟩ := h
    obtain ⟨hfl, hfc, hfn, hfa⟩ :
        f ∈ s.live ∧ f ∉ s.committed ∧ (s.content f).Nodup ∧ ∀ r ∈ s.content f, r ∉ s.acked := by
      simpa [and_assoc] using hg
    exact { hi with
      com_nodup := (List.perm_append_singleton _ _).nodup_iff.2 (List.nodup_cons.2 ⟨hfc, hi.com_nodup⟩)
      com_live := fun g hg => (List.mem_append.1 hg).elim (hi.com_live g) (fun hg => List.mem_singleton.1 hg ▸ hfl)
      rows_perm := by
        show (snap_rows s.pub (s.committed ++ [f])).Perm (s.acked ++ s.content f)
        simp only [snap_rows, List.flatMap_append, List.flatMap_singleton]
        exact hi.rows_perm.append_right _
      acked_nodup := nodup_append_of hi.acked_nodup hfn (fun a ha hb => hfa a hb ha)
      qinv := fun q hq he => (hi.qinv q hq he).imp fun _ hA =>
        { hA with sub := hA.sub.trans (List.sublist_append_left _ _) } }
  | commitMerge outs srcs =>
    simp only [Mem.step, Option.ite_none_right_eq_some, Option.some.injEq] at h
    obtain ⟨hg, rfl⟩ := h
    obtain ⟨hsc, hsn, hon, hol, hsr⟩ : (∀ f ∈ srcs, f ∈ s.committed) ∧ srcs.Nodup ∧ outs.Nodup ∧
        (∀ f ∈ outs, f ∈ s.live ∧ f ∉ s.committed) ∧ sameRows (s.rowsOf outs) (s.rowsOf srcs) = true := by
      simpa [and_assoc] using hg
    exact { hi with
      com_nodup := nodup_append_of (List.Nodup.sublist List.filter_sublist hi.com_nodup) hon
        (fun a ha hb => (hol a hb).2 (List.mem_filter.1 ha).1)
      com_live := fun g hg => (List.mem_append.1 hg).elim (fun hg => hi.com_live g (List.mem_filter.1 hg).1)
        (fun hg => (hol g hg).1)
      rows_perm := by
        show (snap_rows s.pub (s.committed.filter (fun f => !srcs.contains f) ++ outs)).Perm s.acked
        have h1 := flatMap_filter_perm (snap_content s.pub) (fun f => !srcs.contains f) s.committed srcs hi.com_nodup hsn hsc
          (fun a => by rw [Bool.not_eq_false', List.contains_iff_mem])
        simp only [snap_rows, List.flatMap_append]
        exact ((List.Perm.append_left _ (sameRows_perm hsr)).trans h1.symm).trans hi.rows_perm }
  | tombstone f =>
    simp only [Mem.step, Option.ite_none_left_eq_some, Option.some.injEq, List.contains_iff_mem] at h
    obtain ⟨hfc, rfl⟩ := h
    exact { hi with
      live_pub := fun g hg => hi.live_pub g (List.mem_filter.1 hg).1
      com_live := fun g hg => List.mem_filter.2 ⟨hi.com_live g hg, bne_iff_ne.2 fun e => hfc (e ▸ hg)⟩ }
  | qBegin =>
    cases step_qBegin h
    exact hi.set_q _ fun _ => ⟨s.acked, List.Sublist.refl _, fun r hr => hr, nofun, List.nodup_nil,
      fun _ => rfl, nofun⟩
  | qSnap =>
    cases hsq : s.q with
    | none => simp [Mem.step, hsq] at h
    | some q =>
      simp only [Mem.step, hsq, Option.ite_none_left_eq_some, Option.some.injEq, Option.not_isSome_iff_eq_none] at h
      obtain ⟨hns, rfl⟩ := h
      refine hi.set_q _ fun he => ?_
      obtain ⟨A, hq⟩ := hi.qinv q hsq he
      -- the ledger starts afresh as what is acknowledged at this moment
      exact ⟨s.acked, {
        sub := List.Sublist.refl _
        start_in := fun r hr => hq.sub.subset (hq.start_in r hr)
        todo_pub := fun g hg => hi.live_pub g (hi.com_live g hg)
        todo_nodup := hi.com_nodup
        nosnap := nofun
        got_perm := fun _ => by
          show (q.got ++ _).Perm _
          rw [hq.nosnap hns]; exact hi.rows_perm.filter m }⟩
  | qOpen f =>
    cases hsq : s.q with
    | none => simp [Mem.step, hsq] at h
    | some q =>
      simp only [Mem.step, hsq, Option.ite_none_left_eq_some] at h
      obtain ⟨hsnap, h⟩ := h
      by_cases hlive : (!s.live.contains f) = true
      · -- the file is gone: the query ends in an error
        rw [if_pos hlive] at h; cases h
        exact hi.set_q _ nofun
      · by_cases htodo : q.todo.contains f = true
        · -- delivered: the rows of `f` move from the `todo` side to the `got` side
          rw [if_neg hlive, if_pos htodo] at h; cases h
          refine hi.set_q _ fun he => ?_
          obtain ⟨A, hq⟩ := hi.qinv q hsq he
          refine ⟨A, { hq with
            todo_pub := fun g hg => hq.todo_pub g (List.mem_filter.1 hg).1
            todo_nodup := List.Nodup.sublist List.filter_sublist hq.todo_nodup
            nosnap := fun hn => absurd (by rw [hn]; rfl) hsnap
            got_perm := fun hs => ?_ }⟩
          have hsp := (flatMap_filter_perm (snap_content s.pub) (· != f) q.todo [f] hq.todo_nodup
            (List.nodup_cons.2 ⟨List.not_mem_nil, List.nodup_nil⟩)
            (fun a ha => List.mem_singleton.1 ha ▸ List.contains_iff_mem.1 htodo)
            (fun a => by rw [bne_eq_false_iff_eq, List.mem_singleton])).filter m
          rw [List.flatMap_singleton, List.filter_append] at hsp
          show (q.got ++ (s.content f).filter m ++ (snap_rows s.pub (q.todo.filter (· != f))).filter m).Perm _
          rw [List.append_assoc]
          exact (List.Perm.append_left _ (hsp.trans List.perm_append_comm).symm).trans (hq.got_perm hs)
        · rw [if_neg hlive, if_neg htodo] at h; cases h
          exact hi

theorem MemInv.init (m : Row → Bool) : MemInv m {} :=
  ⟨nofun, List.nodup_nil, nofun, .nil, List.nodup_nil, nofun⟩

theorem Mem.iterates (m : Row → Bool) : Iterates (Mem.step m) (Mem.run m) :=
  ⟨fun _ => rfl, fun s e es => by cases h : Mem.step m s e <;> simp [Mem.run, h]⟩

theorem Dir.iterates (m : Row → Bool) : Iterates (Dir.step m) (Dir.run m) :=
  ⟨fun _ => rfl, fun s e es => by cases h : Dir.step m s e <;> simp [Dir.run, h]⟩

theorem finishedOk_spec (s : St) (q : Query) (h : finishedOk s = some q) :
    s.q = some q ∧ q.snap.isSome ∧ q.todo = [] ∧ q.err = false := by
  unfold finishedOk at h
  cases hq : s.q with
  | none => simp [hq] at h
  | some q' =>
    simp only [hq, Option.ite_none_right_eq_some, Option.some.injEq, Bool.and_eq_true, Bool.not_eq_true',
      List.isEmpty_iff] at h
    obtain ⟨⟨⟨hs, ht⟩, he⟩, rfl⟩ := h
    exact ⟨rfl, hs, ht, he⟩

/-- Without removals `live` only grows, so a row that is in a live file stays in one; `unread` needs no case
    for the time before the listing is taken, when every live file is still to be listed. -/
structure DirInv (m : Row → Bool) (s : St) : Prop where
  live_pub : ∀ f ∈ s.live, (s.pub.lookup f).isSome
  acked_live : ∀ r ∈ s.acked, ∃ f ∈ s.live, r ∈ snap_content s.pub f
  unread : ∀ q, s.q = some q → ∀ r ∈ q.ackedAtStart, m r = true →
    r ∈ q.got ∨ ∃ f ∈ s.live, r ∈ snap_content s.pub f ∧ (q.snap.isSome → f ∈ q.todo)

theorem DirInv.step (m : Row → Bool) (s : St) (e : Ev) (s' : St) (hnt : ∀ f, e ≠ .tombstone f) (hi : DirInv m s)
    (h : Dir.step m s e = some s') : DirInv m s' := by
  cases e with
  | publish f rows =>
    cases step_publish (m := m) h
    -- a file that is live keeps its content
    have hc : ∀ g ∈ s.live, snap_content (s.pub ++ [(f, rows)]) g = snap_content s.pub g :=
      fun g hg => content_publish _ _ _ _ (hi.live_pub g hg)
    exact {
      live_pub := live_pub_publish s.pub s.live f rows hi.live_pub
      acked_live := fun r hr =>
        have ⟨g, hg, hrg⟩ := hi.acked_live r hr
        ⟨g, List.mem_append_left _ hg, (hc g hg).symm ▸ hrg⟩
      unread := fun q hsq r hr hm => (hi.unread q hsq r hr hm).imp id
        (fun ⟨g, hg, hrg, ht⟩ => ⟨g, List.mem_append_left _ hg, (hc g hg).symm ▸ hrg, ht⟩) }
  | commitFlush f =>
    simp only [Dir.step, Option.ite_none_right_eq_some, Option.some.injEq, List.contains_iff_mem] at h
    obtain ⟨hfl, rfl⟩ := h
    exact { hi with
      acked_live := fun r hr => (List.mem_append.1 hr).elim (hi.acked_live r) (fun hr => ⟨f, hfl, hr⟩) }
  | commitMerge outs srcs =>
    cases (show s = s' from Option.some.inj h)
    exact hi
  | tombstone f => exact absurd rfl (hnt f)
  | qBegin =>
    cases step_qBegin (m := m) h
    refine { hi with unread := fun _ hq r hr _ => ?_ }
    cases hq
    obtain ⟨g, hg, hrg⟩ := hi.acked_live r hr
    exact Or.inr ⟨g, hg, hrg, nofun⟩
  | qSnap =>
    cases hsq : s.q with
    | none => simp [Dir.step, hsq] at h
    | some q =>
      simp only [Dir.step, hsq, Option.ite_none_left_eq_some, Option.some.injEq] at h
      obtain ⟨_, rfl⟩ := h
      refine { hi with unread := fun _ hq r hr hm => ?_ }
      cases hq
      exact (hi.unread q hsq r hr hm).imp id (fun ⟨g, hg, hrg, _⟩ => ⟨g, hg, hrg, fun _ => hg⟩)
  | qOpen f =>
    cases hsq : s.q with
    | none => simp [Dir.step, hsq] at h
    | some q =>
      simp only [Dir.step, hsq, Option.ite_none_left_eq_some] at h
      by_cases hlive : s.live.contains f = true
      · rw [if_pos hlive] at h; cases h.2
        refine { hi with unread := fun _ hq r hr hm => ?_ }
        cases hq
        show r ∈ q.got ++ (s.content f).filter m ∨
          ∃ g ∈ s.live, r ∈ snap_content s.pub g ∧ (q.snap.isSome → g ∈ q.todo.filter (· != f))
        -- a row of `f` is now in `got`; another file stays in `todo` if it was there
        rcases hi.unread q hsq r hr hm with hb | ⟨g, hg, hrg, ht⟩
        · exact Or.inl (List.mem_append_left _ hb)
        · by_cases hgf : g = f
          · subst hgf
            exact Or.inl (List.mem_append_right _ (List.mem_filter.2 ⟨hrg, hm⟩))
          · exact Or.inr ⟨g, hg, hrg, fun hs => List.mem_filter.2 ⟨ht hs, bne_iff_ne.2 hgf⟩⟩
      · -- skipped: `f` is not live, so it is none of the files the rows rest in
        rw [if_neg hlive] at h; cases h.2
        refine { hi with unread := fun _ hq r hr hm => ?_ }
        cases hq
        exact (hi.unread q hsq r hr hm).imp id fun ⟨g, hg, hrg, ht⟩ => ⟨g, hg, hrg, fun hs =>
          List.mem_filter.2 ⟨ht hs, bne_iff_ne.2 fun e => hlive (List.contains_iff_mem.2 (e ▸ hg))⟩⟩

theorem DirInv.init (m : Row → Bool) : DirInv m {} :=
  ⟨nofun, nofun, nofun⟩

/-- The two schedules on which the directory discipline fails (`C14.C14_directory_omission`,
    `C14.C14_directory_duplication`), run under MemoryMetaStore (in the second the query opens file 3
    only, its snapshot being `[3]`): the first ends in an error, the second returns each row once. -/
theorem mem_same_schedules_aux :
    (∃ s q, Mem.run (fun _ => true) {}
      [.publish 1 [10], .commitFlush 1, .publish 2 [20], .commitFlush 2, .qBegin, .qSnap,
       .publish 3 [10, 20], .commitMerge [3] [1, 2], .tombstone 1, .tombstone 2, .qOpen 1, .qOpen 2] = some s ∧
      s.q = some q ∧ q.err = true) ∧
    (∃ s q, Mem.run (fun _ => true) {}
      [.publish 1 [10], .commitFlush 1, .publish 2 [20], .commitFlush 2, .qBegin,
       .publish 3 [10, 20], .commitMerge [3] [1, 2], .qSnap, .qOpen 3, .tombstone 1, .tombstone 2] = some s ∧
      finishedOk s = some q ∧ q.got = [10, 20]) := by
  refine ⟨⟨_, _, rfl, rfl, rfl⟩, ⟨_, _, rfl, rfl, rfl⟩⟩

end BloomVerif.Snapshot
