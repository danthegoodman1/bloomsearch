/-
  The two greedy planners of merge.go. Each is an outer loop over seeds around an inner pass that takes what
  fits: first what one pass takes, then what the outer loops return.
-/
import BloomVerif.Model.MergePlan
namespace BloomVerif

theorem sumRows_cons (a : BShape) (l : List BShape) : sumRows (a :: l) = a.rows + sumRows l := by
  simp [sumRows]
theorem sumSize_cons (a : BShape) (l : List BShape) : sumSize (a :: l) = a.size + sumSize l := by
  simp [sumSize]

/-- The running totals `cr`, `cs` start at the seed's own rows and bytes, and a seed alone may exceed the limits
    (it is still emitted, as a group of one): so the totals are bounded only once something has been taken, and
    the bounds on a group below are for groups of two or more. -/
theorem greedyTake_limits (cfg : EngineConfig) (seed : BShape) :
    ∀ (l : List BShape) (cr cs : Int), (greedyTake cfg seed cr cs l).1 ≠ [] →
      cr + sumRows (greedyTake cfg seed cr cs l).1 ≤ cfg.MaxRowGroupRows ∧
      cs + sumSize (greedyTake cfg seed cr cs l).1 ≤ cfg.MaxRowGroupBytes
  | [], _, _ => by simp [greedyTake]
  | o :: r, cr, cs => by
    simp only [greedyTake]
    split
    next hc =>
      intro _
      simp only [Bool.and_eq_true, decide_eq_true_eq] at hc
      simp only [sumRows_cons, sumSize_cons]
      by_cases he : (greedyTake cfg seed (cr + o.rows) (cs + o.size) r).1 = []
      · rw [he]; simp only [sumRows, sumSize, List.map_nil, List.sum_nil]; omega
      · have := greedyTake_limits cfg seed r _ _ he
        omega
    next hc =>
      intro h
      exact greedyTake_limits cfg seed r cr cs h

theorem greedyTake_perm (cfg : EngineConfig) (seed : BShape) :
    ∀ (l : List BShape) (cr cs : Int), (greedyTake cfg seed cr cs l).1 ++ (greedyTake cfg seed cr cs l).2 |>.Perm l
  | [], _, _ => by simp [greedyTake]
  | o :: r, cr, cs => by
    simp only [greedyTake]
    split
    · exact (greedyTake_perm cfg seed r _ _).cons o
    · exact List.perm_middle.trans ((greedyTake_perm cfg seed r _ _).cons o)

theorem greedyGroupsFuel_spec (cfg : EngineConfig) :
    ∀ (f : Nat) (l : List BShape), l.length ≤ f →
      ((greedyGroupsFuel cfg f l).flatMap id).Perm l ∧ ∀ g ∈ greedyGroupsFuel cfg f l,
        g ≠ [] ∧ (2 ≤ g.length → sumRows g ≤ cfg.MaxRowGroupRows ∧ sumSize g ≤ cfg.MaxRowGroupBytes)
  | 0, [] | _ + 1, [] => fun _ => ⟨.nil, nofun⟩
  | 0, _ :: _ => nofun
  | f + 1, s :: rest => by
    intro h
    rw [greedyGroupsFuel]
    have hp := greedyTake_perm cfg s rest s.rows s.size
    -- the pass leaves no more than `rest`, so the fuel still suffices
    obtain ⟨ihp, ihg⟩ := greedyGroupsFuel_spec cfg f (greedyTake cfg s s.rows s.size rest).2 (by
      have := hp.length_eq
      simp only [List.length_cons, List.length_append] at h this; omega)
    refine ⟨((List.Perm.append_left _ ihp).trans hp).cons s, fun g hg => ?_⟩
    rcases List.mem_cons.mp hg with rfl | hg
    · refine ⟨List.cons_ne_nil _ _, fun h2 => ?_⟩
      have hne : (greedyTake cfg s s.rows s.size rest).1 ≠ [] := by
        intro he; rw [he] at h2; simp at h2
      simpa only [sumRows_cons, sumSize_cons] using greedyTake_limits cfg s rest _ _ hne
    · exact ihg g hg

theorem bucketInsert_key (b : BShape) :
    ∀ (acc : List (String × List BShape)), (∀ p ∈ acc, ∀ a ∈ p.2, a.key = p.1) →
      ∀ p ∈ bucketInsert b acc, ∀ a ∈ p.2, a.key = p.1
  | [], _ => by simp [bucketInsert]
  | (k, l) :: r, hacc => by
    obtain ⟨hl, hr⟩ := List.forall_mem_cons.mp hacc
    rw [bucketInsert]
    split
    next hk =>
      refine List.forall_mem_cons.mpr ⟨fun a ha => ?_, hr⟩
      rcases List.mem_append.mp ha with ha | ha
      · exact hl a ha
      · rw [List.mem_singleton.mp ha]; exact hk.symm
    next => exact List.forall_mem_cons.mpr ⟨hl, bucketInsert_key b r hr⟩

theorem bucketInsert_perm (b : BShape) :
    ∀ (acc : List (String × List BShape)),
      ((bucketInsert b acc).flatMap (·.2)).Perm (b :: acc.flatMap (·.2))
  | [] => .refl _
  | (k, l) :: r => by
    rw [bucketInsert]
    split
    · simp only [List.flatMap_cons, List.append_assoc]
      exact List.perm_middle
    · simp only [List.flatMap_cons]
      exact ((bucketInsert_perm b r).append_left l).trans List.perm_middle

theorem foldl_bucket_perm : ∀ (blocks : List BShape) (acc : List (String × List BShape)),
    ((blocks.foldl (fun acc b => bucketInsert b acc) acc).flatMap (·.2)).Perm
      (acc.flatMap (·.2) ++ blocks)
  | [], _ => by simp
  | b :: bs, acc =>
    (foldl_bucket_perm bs _).trans (((bucketInsert_perm b acc).append_right bs).trans List.perm_middle.symm)

theorem bucketize_key (blocks : List BShape) :
    ∀ p ∈ bucketize blocks, ∀ a ∈ p.2, a.key = p.1 :=
  List.foldlRecOn (motive := fun acc : List (String × List BShape) => ∀ p ∈ acc, ∀ a ∈ p.2, a.key = p.1)
    blocks (fun acc b => bucketInsert b acc) (fun _ h => nomatch h) (fun acc h b _ => bucketInsert_key b acc h)

theorem bucketize_perm (blocks : List BShape) :
    ((bucketize blocks).flatMap (·.2)).Perm blocks := by
  have := foldl_bucket_perm blocks []
  simpa [bucketize] using this

theorem flatMap_perm {α β : Type} {f g : α → List β} (h : ∀ a, (f a).Perm (g a)) :
    ∀ L : List α, (L.flatMap f).Perm (L.flatMap g)
  | [] => .nil
  | a :: L => by simpa only [List.flatMap_cons] using (h a).append (flatMap_perm h L)

structure GroupOK (cfg : EngineConfig) (g : List BShape) : Prop where
  nonempty : g ≠ []
  limits : 2 ≤ g.length → sumRows g ≤ cfg.MaxRowGroupRows ∧ sumSize g ≤ cfg.MaxRowGroupBytes
  sameKey : ∀ a ∈ g, ∀ b ∈ g, a.key = b.key

theorem blockGroups_group (cfg : EngineConfig) (blocks : List BShape) (g : List BShape)
    (hg : g ∈ blockGroups cfg blocks) : GroupOK cfg g := by
  obtain ⟨p, hp, hgp⟩ := List.mem_flatMap.mp hg
  obtain ⟨hperm, hgroup⟩ := greedyGroupsFuel_spec cfg _ p.2 (Nat.le_refl _)
  -- the groups of a bucket consist of blocks of the bucket, which share its key
  have hmem : ∀ a ∈ g, a ∈ p.2 := fun a ha => hperm.subset (List.mem_flatMap.mpr ⟨g, hgp, ha⟩)
  refine ⟨(hgroup g hgp).1, (hgroup g hgp).2, fun a ha b hb => ?_⟩
  rw [bucketize_key blocks p hp a (hmem a ha), bucketize_key blocks p hp b (hmem b hb)]

theorem blockGroups_perm (cfg : EngineConfig) (blocks : List BShape) :
    ((blockGroups cfg blocks).flatMap id).Perm blocks := by
  rw [blockGroups, List.flatMap_assoc]
  refine (flatMap_perm (fun p => ?_) _).trans (bucketize_perm blocks)
  exact (greedyGroupsFuel_spec cfg _ p.2 (Nat.le_refl _)).1

theorem sumTotal_cons (a : Cand) (l : List Cand) : sumTotal (a :: l) = a.totalSize + sumTotal l := by
  simp [sumTotal]

/-- `n` files are counted so far, `cur` bytes are in the group. As for blocks, `cur` starts at the seed file's own
    size, which may exceed the limit: the size is bounded only once a file has joined. -/
structure TakeOK (cfg : EngineConfig) (n cur : Int) (l : List Cand) (res : List Cand × List Cand) : Prop where
  count : n ≤ cfg.MaxFilesToMergePerOperation → n + (res.1.length : Int) ≤ cfg.MaxFilesToMergePerOperation
  size : res.1 ≠ [] → cur + sumTotal res.1 ≤ cfg.MaxFileSize
  perm : (res.1 ++ res.2).Perm l

theorem fileTake_spec (cfg : EngineConfig) (total : Int) :
    ∀ (l : List Cand) (glen cur : Int) (gb : List BShape),
      TakeOK cfg (total + glen) cur l (fileTake cfg total glen cur gb l)
  | [], _, _, _ => ⟨fun h => by simpa [fileTake] using h, fun h => absurd rfl h, .nil⟩
  | c :: r, glen, cur, gb => by
    have skip : ∀ {res}, TakeOK cfg (total + glen) cur r res → TakeOK cfg (total + glen) cur (c :: r) (res.1, c :: res.2) :=
      fun ⟨h1, h2, h3⟩ => ⟨h1, h2, List.perm_middle.trans (h3.cons c)⟩
    simp only [fileTake]
    split
    · exact ⟨fun h => by simpa using h, fun h => absurd rfl h, .refl _⟩
    split
    · exact skip (fileTake_spec cfg total r glen cur gb)
    split
    · obtain ⟨h1, h2, h3⟩ := fileTake_spec cfg total r (glen + 1) (cur + c.totalSize) (gb ++ c.blocks)
      refine ⟨fun h => ?_, fun _ => ?_, h3.cons c⟩
      · have := h1 (by omega)
        simp only [List.length_cons]; omega
      · rw [sumTotal_cons]
        by_cases he : (fileTake cfg total (glen + 1) (cur + c.totalSize) (gb ++ c.blocks) r).1 = []
        · rw [he]; simp only [sumTotal, List.map_nil, List.sum_nil]; omega
        · have := h2 he; omega
    · exact skip (fileTake_spec cfg total r glen cur gb)

/-- `total` files are in groups so far. `perm` says that no candidate is used twice. -/
structure GroupsOK (cfg : EngineConfig) (total : Int) (l : List Cand) (gs : List (List Cand)) : Prop where
  count : total + ((gs.map List.length).sum : Int) ≤ max cfg.MaxFilesToMergePerOperation total
  groups : ∀ g ∈ gs, 2 ≤ g.length ∧ sumTotal g ≤ cfg.MaxFileSize
  perm : ∃ lo, (gs.flatMap id ++ lo).Perm l

theorem GroupsOK.nil (cfg : EngineConfig) (total : Int) (l : List Cand) : GroupsOK cfg total l [] :=
  ⟨by simp only [List.map_nil, List.sum_nil]; omega, fun _ h => (nomatch h), l, .refl _⟩

theorem fileGroupsFuel_spec (cfg : EngineConfig) :
    ∀ (f : Nat) (total : Int) (l : List Cand), GroupsOK cfg total l (fileGroupsFuel cfg f total l)
  | 0, _, l => .nil ..
  | _ + 1, _, [] => .nil ..
  | f + 1, total, c :: rest => by
    simp only [fileGroupsFuel]
    obtain ⟨tcount, tsize, tperm⟩ := fileTake_spec cfg total rest 1 c.totalSize c.blocks
    split
    · exact .nil ..
    split
    next he =>
      -- nothing joined the seed: it is dropped
      obtain ⟨rcount, rgroups, lo, rperm⟩ := fileGroupsFuel_spec cfg f total (fileTake cfg total 1 c.totalSize c.blocks rest).2
      rw [List.isEmpty_iff.mp he] at tperm
      exact ⟨rcount, rgroups, c :: lo, List.perm_middle.trans ((rperm.trans tperm).cons c)⟩
    next he =>
      obtain ⟨rcount, rgroups, lo, rperm⟩ := fileGroupsFuel_spec cfg f
        (total + 1 + (fileTake cfg total 1 c.totalSize c.blocks rest).1.length)
        (fileTake cfg total 1 c.totalSize c.blocks rest).2
      have hne : (fileTake cfg total 1 c.totalSize c.blocks rest).1 ≠ [] := mt List.isEmpty_iff.mpr he
      refine ⟨?_, ?_, lo, ?_⟩
      · have := tcount (by omega)
        simp only [List.map_cons, List.sum_cons, List.length_cons]; omega
      · intro g hg
        rcases List.mem_cons.mp hg with rfl | hg
        · have := List.length_pos_iff.mpr hne
          exact ⟨by simp only [List.length_cons]; omega, by rw [sumTotal_cons]; exact tsize hne⟩
        · exact rgroups g hg
      · simp only [List.flatMap_cons, id, List.append_assoc]
        exact ((List.Perm.append_left _ rperm).trans tperm).cons c

theorem fileGroups_spec (cfg : EngineConfig) (cands : List Cand) : GroupsOK cfg 0 cands (fileGroups cfg cands) := by
  unfold fileGroups
  split
  · exact .nil ..
  · exact fileGroupsFuel_spec cfg cands.length 0 cands

end BloomVerif
