/- The fast tokenizer path equals the reference whenever lowering preserves the space class; the
   hypothesis is proved for the regenerated Unicode tables by kernel evaluation over the whole table. -/
import BloomVerif.Model.Tokenizer
import BloomVerif.Lemmas.Assoc
namespace BloomVerif

theorem fieldsGo_map (sp : Char → Bool) (lo : Char → Char) (h : ∀ c, sp (lo c) = sp c) :
    ∀ (s cur : Str), fieldsGo sp (s.map lo) (cur.map lo) = (fieldsGo sp s cur).map (·.map lo)
  | [], cur => by cases cur <;> simp [fieldsGo]
  | c :: r, cur => by
    cases hp : sp c
    · simpa [fieldsGo, h, hp] using fieldsGo_map sp lo h r (c :: cur)
    · have ih := fieldsGo_map sp lo h r []
      simp only [List.map] at ih
      cases cur <;> simp [fieldsGo, h, hp, ih]

/-- Split-then-fold (the engine's fast path) equals fold-then-split (the reference) for every text. -/
theorem fast_tokenizer_eq (sp : Char → Bool) (lo : Char → Char) (h : ∀ c, sp (lo c) = sp c) (s : Str) :
    tokFast sp lo s = tokRef sp lo s := by
  unfold tokFast tokRef fieldsOn
  have := fieldsGo_map sp lo h s []
  simpa using this.symm

def maskOf (l : List Nat) : Nat := l.foldr (fun s m => Nat.lor (Nat.shiftLeft 1 s) m) 0

theorem testBit_maskOf (l : List Nat) (n : Nat) : (maskOf l).testBit n = l.contains n := by
  induction l with
  | nil => simp [maskOf]
  | cons s r ih =>
    have : maskOf (s :: r) = 1 <<< s ||| maskOf r := rfl
    rw [this, Nat.testBit_or, ih, Nat.one_shiftLeft, Nat.testBit_two_pow]
    by_cases h : n = s
    · simp [h]
    · simp [h, Ne.symm h]

/-- What is needed of one entry `(r, ToLower r)` of the regenerated case table: neither rune is a
    space rune, and the image is a Unicode scalar value. It is spelt with the `Nat` operations the
    kernel has built in, applied bare: a space test is then three of them on the mask of `spaceCps`
    in place of a scan of the list, and the same tests through `testBit`, `&&&`, `<` and `decide`
    cost the kernel several times as much in instance unfolding. -/
def lowerPairOK (p : Nat × Nat) : Bool :=
  Nat.beq (Nat.land 1 (Nat.shiftRight (maskOf Gen.spaceCps) p.1)) 0 &&
    Nat.beq (Nat.land 1 (Nat.shiftRight (maskOf Gen.spaceCps) p.2)) 0 &&
    (Nat.blt p.2 0xD800 || (Nat.blt 0xDFFF p.2 && Nat.blt p.2 0x110000))

theorem lowerPairs_ok : Gen.lowerPairs.all lowerPairOK = true := by
  -- chunk by chunk: the kernel walks `l₀ ++ ⋯ ++ l₂₂` several times slower than the `lᵢ` one by one
  unfold Gen.lowerPairs
  simp only [List.all_append]
  decide +kernel

theorem lowerPairOK_spec {p : Nat × Nat} (h : lowerPairOK p = true) :
    isSpaceCp p.1 = false ∧ isSpaceCp p.2 = false ∧ p.2.isValidChar := by
  simp only [lowerPairOK, Bool.and_eq_true, Bool.or_eq_true, Nat.blt_eq] at h
  obtain ⟨⟨h1, h2⟩, h3⟩ := h
  have hn : ∀ n, Nat.beq (Nat.land 1 (Nat.shiftRight (maskOf Gen.spaceCps) n)) 0 = true →
      isSpaceCp n = false := by
    intro n hn
    have e : (maskOf Gen.spaceCps).testBit n =
        (Nat.land 1 (Nat.shiftRight (maskOf Gen.spaceCps) n) != 0) := rfl
    rw [isSpaceCp, ← testBit_maskOf, e, Nat.eq_of_beq_eq_true hn]
    rfl
  exact ⟨hn _ h1, hn _ h2, by unfold Nat.isValidChar; omega⟩

theorem lowerCp_cases (n : Nat) : lowerCp n = n ∨ lowerPairOK (n, lowerCp n) = true := by
  unfold lowerCp
  cases h : Gen.lowerPairs.lookup n with
  | none => exact .inl rfl
  | some m => exact .inr (List.all_eq_true.1 lowerPairs_ok _ (List.mem_of_lookup_eq_some h))

theorem isSpaceCp_lowerCp (n : Nat) : isSpaceCp (lowerCp n) = isSpaceCp n := by
  rcases lowerCp_cases n with h | h
  · rw [h]
  · obtain ⟨h1, h2, _⟩ := lowerPairOK_spec h; exact h2.trans h1.symm

theorem lowerCp_valid (n : Nat) (h : n.isValidChar) : (lowerCp n).isValidChar := by
  rcases lowerCp_cases n with e | e
  · rwa [e]
  · exact (lowerPairOK_spec e).2.2

theorem toNat_ofNat_valid (n : Nat) (h : n.isValidChar) : (Char.ofNat n).toNat = n := by
  simp only [Char.ofNat, dif_pos h, Char.ofNatAux, Char.toNat, UInt32.toNat]
  simp [BitVec.toNat_ofNatLT]

theorem isSpaceC_lowerC (c : Char) : isSpaceC (lowerC c) = isSpaceC c := by
  unfold isSpaceC lowerC
  have hc : c.toNat.isValidChar := c.valid
  rw [toNat_ofNat_valid _ (lowerCp_valid _ hc)]
  exact isSpaceCp_lowerCp _

end BloomVerif
