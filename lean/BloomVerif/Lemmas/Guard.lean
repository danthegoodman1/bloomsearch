/- The path walker: every delimiter-bounded prefix of an emitted path is itself an emitted path
   (so a regex condition that is true of a row implies its Field guard). -/
import BloomVerif.Model.Json
namespace BloomVerif

theorem mem_dotPrefixes : ∀ (k p : Str), p ∈ dotPrefixes k ↔ ∃ b, k = p ++ '.' :: b
  | [], p => by simp [dotPrefixes]
  | c :: r, [] => by simp [dotPrefixes]
  | c :: r, x :: p => by simpa [dotPrefixes, mem_dotPrefixes r p, eq_comm] using and_comm

/-- Where a delimiter of `p ++ "." ++ k` can sit: inside `p`, at the joint, or inside `k`. -/
theorem append_dot_split (p k F t : Str) (h : p ++ '.' :: k = F ++ '.' :: t) :
    (∃ t', p = F ++ '.' :: t') ∨ F = p ∨ (∃ a b, k = a ++ '.' :: b ∧ F = p ++ '.' :: a) := by
  simp only [List.append_eq_append_iff, List.cons_eq_append_iff] at h
  rcases h with ⟨_, rfl, ⟨rfl, _⟩ | ⟨a, rfl, rfl⟩⟩ | ⟨_, rfl, ⟨rfl, _⟩ | ⟨c, rfl, _⟩⟩
  · exact .inr (.inl (List.append_nil _))
  · exact .inr (.inr ⟨a, t, rfl, rfl⟩)
  · exact .inr (.inl (List.append_nil _).symm)
  · exact .inl ⟨c, rfl⟩

theorem mem_paths_keyPrefixEms (buf k a : Str) (ha : a ∈ dotPrefixes k)
    (hne : joinPath buf a ≠ []) : joinPath buf a ∈ paths (keyPrefixEms buf k) := by
  exact List.mem_map.2 ⟨⟨joinPath buf a, false, none⟩,
    List.mem_filterMap.2 ⟨a, ha, by simp [hne]⟩, rfl⟩

theorem path_of_mem_keyPrefixEms (buf k : Str) (e : Em) (he : e ∈ keyPrefixEms buf k) :
    ∃ p ∈ dotPrefixes k, e.path = joinPath buf p := by
  obtain ⟨p, hp, hpe⟩ := List.mem_filterMap.1 he
  refine ⟨p, hp, ?_⟩
  by_cases h : joinPath buf p = []
  · rw [if_pos h] at hpe; cases hpe
  · rw [if_neg h] at hpe
    rw [← Option.some.inj hpe]

/-- The key step of the walker proof. `q` is the key `k` of an object member or one of its
    dot-prefixes; either way a dot-prefix of `q` is one of `k`, and that is all `hq` is used for. -/
theorem join_split (buf k q F t : Str) (hq : q <+: k) (hF : F ≠ [])
    (h : joinPath buf q = F ++ '.' :: t) :
    F ∈ paths (keyPrefixEms buf k) ∨ F = buf ∨ (∃ t', buf = F ++ '.' :: t') := by
  obtain ⟨s, rfl⟩ := hq
  have hk : ∀ a b, q = a ++ '.' :: b → joinPath buf a ≠ [] →
      joinPath buf a ∈ paths (keyPrefixEms buf (q ++ s)) := fun a b e =>
    mem_paths_keyPrefixEms buf _ a ((mem_dotPrefixes _ a).2 ⟨b ++ s, by simp [e]⟩)
  by_cases hb : buf = []
  · subst hb
    exact .inl (hk F t h hF)
  · rw [joinPath, if_neg hb] at h
    rcases append_dot_split buf q F t h with h1 | h2 | ⟨a, b, hqa, rfl⟩
    · exact .inr (.inr h1)
    · exact .inr (.inl h2)
    · have := hk a b hqa
      rw [joinPath, if_neg hb] at this
      exact .inl (this hF)

theorem paths_append (l₁ l₂ : List Em) : paths (l₁ ++ l₂) = paths l₁ ++ paths l₂ := by
  simp [paths]

theorem path_of_mem_own (buf : Str) (l : Bool) (x : Option Str) (e : Em)
    (he : e ∈ (if buf = [] then [] else [(⟨buf, l, x⟩ : Em)])) : e.path = buf := by
  split at he
  · cases he
  · rw [List.mem_singleton.1 he]

/-- A prefix equal to the buffer is the container's own marker. -/
theorem container_lift (buf F : Str) (ws : List Em) (hF : F ≠ [])
    (h : F ∈ paths ws ∨ F = buf ∨ (∃ t', buf = F ++ '.' :: t')) :
    F ∈ paths (containerEm buf ++ ws) ∨ (∃ t', buf = F ++ '.' :: t') := by
  rw [paths_append, List.mem_append]
  rcases h with h | rfl | h
  · exact Or.inl (Or.inr h)
  · exact Or.inl (Or.inl (by simp [containerEm, hF, paths]))
  · exact Or.inr h

mutual
  /-- The second alternative is a prefix of the buffer the walk started with: an ancestor level
      emitted it. -/
  theorem guard_walk (buf : Str) (v : J) :
      ∀ e ∈ walk buf v, ∀ F t, F ≠ [] → e.path = F ++ '.' :: t →
        F ∈ paths (walk buf v) ∨ (∃ t', buf = F ++ '.' :: t') :=
    match v with
    | .obj kvs => by
      intro e he F t hF hp
      simp only [walk, List.mem_append] at he ⊢
      rcases he with he | he
      · exact Or.inr ⟨t, path_of_mem_own buf _ _ e he ▸ hp⟩
      · exact container_lift buf F _ hF (guard_walkObj_aux buf kvs e he F t hF hp)
    | .arr xs => by
      intro e he F t hF hp
      simp only [walk, List.mem_append] at he ⊢
      rcases he with he | he
      · exact Or.inr ⟨t, path_of_mem_own buf _ _ e he ▸ hp⟩
      · exact container_lift buf F _ hF (guard_walkArr_aux buf xs e he F t hF hp)
    | .null | .bool _ | .num _ | .str _ => fun e he F t _ hp =>
      Or.inr ⟨t, path_of_mem_own buf _ _ e (by simpa only [walk] using he) ▸ hp⟩
  theorem guard_walkObj_aux (buf : Str) : (kvs : List (Str × J)) → ∀ e ∈ walkObj buf kvs,
      ∀ F t, F ≠ [] → e.path = F ++ '.' :: t →
      F ∈ paths (walkObj buf kvs) ∨ F = buf ∨ (∃ t', buf = F ++ '.' :: t')
    | [] => by
      intro e he
      simp [walkObj] at he
    | (k, v) :: r => by
      intro e he F t hF hp
      simp only [walkObj, List.mem_append] at he
      simp only [walkObj, paths_append, List.mem_append]
      rcases he with (he | he) | he
      · obtain ⟨p, hpk, hpe⟩ := path_of_mem_keyPrefixEms buf k e he
        obtain ⟨b, hb⟩ := (mem_dotPrefixes k p).1 hpk
        exact (join_split buf k p F t ⟨_, hb.symm⟩ hF (by rw [← hpe, hp])).imp_left fun h => Or.inl (Or.inl h)
      · rcases guard_walk (joinPath buf k) v e he F t hF hp with h | ⟨t', ht'⟩
        · exact Or.inl (Or.inl (Or.inr h))
        · exact (join_split buf k k F t' (List.prefix_refl k) hF ht').imp_left fun h => Or.inl (Or.inl h)
      · exact (guard_walkObj_aux buf r e he F t hF hp).imp_left Or.inr
  theorem guard_walkArr_aux (buf : Str) : (xs : List J) → ∀ e ∈ walkArr buf xs,
      ∀ F t, F ≠ [] → e.path = F ++ '.' :: t →
      F ∈ paths (walkArr buf xs) ∨ F = buf ∨ (∃ t', buf = F ++ '.' :: t')
    | [] => by
      intro e he
      simp [walkArr] at he
    | v :: r => by
      intro e he F t hF hp
      simp only [walkArr, List.mem_append] at he
      simp only [walkArr, paths_append, List.mem_append]
      rcases he with he | he
      · exact (guard_walk buf v e he F t hF hp).imp Or.inl Or.inr
      · exact (guard_walkArr_aux buf r e he F t hF hp).imp_left Or.inr
end

theorem guard_root (row : J) (e : Em) (he : e ∈ emissions row) (F t : Str) (hF : F ≠ [])
    (hp : e.path = F ++ '.' :: t) : F ∈ paths (emissions row) := by
  rcases guard_walk [] row e he F t hF hp with h | ⟨t', ht'⟩
  · exact h
  · simp at ht'

end BloomVerif
