/-
  T-gen bridge for `evaluatePrefilterCondition` (query.go): the regenerated definition — pointer
  fields as `Option`, the two-valued map lookup as `List.lookup` — equals the strict hand model
  `evalPreCond` the C02/C04/C24 theorems are stated about.
-/
import BloomVerif.Bridge.Leaf
import BloomVerif.Model.PreTree
namespace BloomVerif.Bridge

theorem evalPreCond_bridge (m : DataBlockMetadata) (c : PrefilterCondition) :
    Gen.evaluatePrefilterCondition m c = evalPreCond m c := by
  unfold Gen.evaluatePrefilterCondition evalPreCond lookupMM
  by_cases h1 : c.ConditionType = "PARTITION"
  · simp only [h1, if_true]
    cases hp : c.PartitionCondition with
    | none => simp
    | some sc =>
      by_cases h2 : m.PartitionID = "" <;> simp [h2, evalString_bridge]
  · simp only [h1, if_false]
    by_cases h3 : c.ConditionType = "MINMAX"
    · simp only [h3, if_true]
      cases hm : c.MinMaxCondition with
      | none => simp
      | some nc =>
        cases hl : List.lookup c.MinMaxFieldName m.MinMaxIndexes with
        | none => simp
        | some mm => simp [evalMinMax_bridge]
    · simp [h3]

end BloomVerif.Bridge
