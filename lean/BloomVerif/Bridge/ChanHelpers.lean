/-
  T-gen bridge for the acknowledgement senders of chan_helpers.go (`sendWithContext`,
  `sendOptionalWithContext`, `sendToChannelsWithContext`) as regenerated (`Generated/ChanHelpers`): the facts
  behind the pipeline LTS's "one acknowledgement per waiter" steps.
-/
import BloomVerif.Generated.ChanHelpers
namespace BloomVerif.Bridge

theorem sendWithContext_spec (ready : Bool) (w : Gen.WaitCase) :
    Gen.sendWithContext ready w =
      if ready then (1, true) else match w with | .sent => (1, true) | .ctxDone => (0, false) := by
  cases ready <;> cases w <;> rfl

theorem send_at_most_once (ready : Bool) (w : Gen.WaitCase) : (Gen.sendWithContext ready w).1 ≤ 1 := by
  cases ready <;> cases w <;> decide

theorem send_nil_iff_sent (ready : Bool) (w : Gen.WaitCase) :
    (Gen.sendWithContext ready w).2 = true ↔ (Gen.sendWithContext ready w).1 = 1 := by
  cases ready <;> cases w <;> decide

theorem ready_always_receives (w : Gen.WaitCase) : Gen.sendWithContext true w = (1, true) := rfl

theorem blocked_and_cancelled_sends_nothing : Gen.sendWithContext false .ctxDone = (0, false) := rfl

/-- one waiter of the fan-out: (channel is nil, channel is ready, what the blocking select does) -/
abbrev Waiter := Bool × Bool × Gen.WaitCase

def attempt (c : Waiter) : Nat × Bool := Gen.sendOptionalWithContext c.1 c.2.1 c.2.2

theorem attempt_at_most_once (c : Waiter) : (attempt c).1 ≤ 1 := by
  obtain ⟨n, r, w⟩ := c
  unfold attempt Gen.sendOptionalWithContext
  cases n
  · exact send_at_most_once r w
  · simp

theorem attempt_ready (c : Waiter) (hn : c.1 = false) (hr : c.2.1 = true) : attempt c = (1, true) := by
  obtain ⟨n, r, w⟩ := c
  subst hn; subst hr
  exact ready_always_receives w

theorem fanout_fold (chs : List Waiter) (acc : List Nat × Nat) :
    chs.foldl (fun st c =>
      let r := Gen.sendOptionalWithContext c.1 c.2.1 c.2.2
      (st.1 ++ [r.1], if r.2 then st.2 else st.2 + 1)) acc =
    (acc.1 ++ chs.map (fun c => (attempt c).1), acc.2 + (chs.filter (fun c => !(attempt c).2)).length) := by
  induction chs generalizing acc with
  | nil => simp
  | cons c r ih =>
    simp only [List.foldl_cons]
    rw [ih]
    simp only [attempt, List.map_cons, List.filter_cons, List.append_assoc, List.singleton_append]
    cases h : (Gen.sendOptionalWithContext c.1 c.2.1 c.2.2).2 <;> simp <;> omega

theorem fanout_spec (chs : List Waiter) :
    Gen.sendToChannelsWithContext chs =
      (chs.map (fun c => (attempt c).1), (chs.filter (fun c => !(attempt c).2)).length) := by
  unfold Gen.sendToChannelsWithContext
  rw [fanout_fold]
  simp

end BloomVerif.Bridge
