/-
  T-gen bridge for `planBlockFilterReads` (file_format.go): region sanity, per-block section validation,
  and the `hasSections` latch the query uses to decide whether the block filter region is read at all.
-/
import BloomVerif.Lemmas.Format
namespace BloomVerif.Bridge

/-- The model: `none` = error; otherwise the region bounds and whether any candidate block has a section. -/
def planReads (blocks : List DataBlockMetadata) (ro rs : Int) : Option (Int × Int × Bool) :=
  if ro < 0 ∨ rs < 0 then none
  else if ro + rs > maxInt64 then none
  else if blocks.all (fun b => validSection b ro (ro + rs)) then
    some (ro, ro + rs, blocks.any (fun b => decide (b.BloomFilterSize > 0)))
  else none

theorem planReads_bridge (blocks : List DataBlockMetadata) (ro rs : Int)
    (hb : ∀ b ∈ blocks, BlockI64 b) (h1 : InI64 ro) (h2 : InI64 rs) :
    Gen.planBlockFilterReads blocks ro rs =
      (match planReads blocks ro rs with
       | none => (0, 0, false, false)
       | some (a, b, h) => (a, b, h, true)) := by
  have _ := hb  -- not needed: inside a region that fits int64 the section check is exact for any block
  unfold Gen.planBlockFilterReads planReads
  simp only [Bool.or_eq_true, decide_eq_true_eq]
  by_cases c1 : ro < 0 ∨ rs < 0
  · simp [c1]
  · simp only [c1, if_false]
    by_cases c2 : ro + rs > maxInt64
    · -- Go's overflow check: a sum of two non-negative int64 that does not fit wraps below `ro`
      have : wadd ro rs < ro := by unfold wadd wrap64; i64omega
      simp [c2, this]
    · have hnlt : ¬ (ro + rs < ro) := by omega
      rw [wadd_id (by i64omega)]
      simp only [validSection_bridge (show ro + rs - ro ≤ maxInt64 by i64omega), c2, hnlt, if_false]
      cases blocks.all (fun b => validSection b ro (ro + rs)) <;> simp

/-- Non-vacuity: three candidate blocks (one without a section, two with sections inside the region). -/
example :
    Gen.planBlockFilterReads
      [ { RowDataOffset := 0, RowDataSize := 40 },
        { RowDataOffset := 40, RowDataSize := 30, BloomFilterOffset := 100, BloomFilterSize := 25 },
        { RowDataOffset := 70, RowDataSize := 30, BloomFilterOffset := 125, BloomFilterSize := 35 } ]
      100 60 = (100, 160, true, true) := by
  decide

/-- `hasSections` is exactly "some candidate block has a filter section": the condition under which
    `ReadPlan.filePlan` (C24) plans a read of the region. -/
theorem planReads_hasSections (blocks : List DataBlockMetadata) (ro rs a b : Int) (h : Bool)
    (hp : planReads blocks ro rs = some (a, b, h)) :
    h = blocks.any (fun b => decide (b.BloomFilterSize > 0)) := by
  simp only [planReads, Option.ite_none_left_eq_some, Option.ite_none_right_eq_some, Option.some.injEq,
    Prod.mk.injEq] at hp
  exact hp.2.2.2.2.2.symm

end BloomVerif.Bridge
