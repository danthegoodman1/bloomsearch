/-
  T-gen bridge for the flush triggers of the ingest actor (ingest.go): the per-row accounting, the
  partition-level and buffer-level limit checks of `processIngestRequest` and the ticker condition of
  `ingestWorker`, regenerated from the Go text (`Generated/Trigger`), are the decisions the model's
  `Actor.step` takes (`partAtLimit`, the two buffer comparisons, `elapsed`).
-/
import BloomVerif.Generated.Trigger
import BloomVerif.Generated.Leaf
import BloomVerif.Lemmas.Actor
namespace BloomVerif.Bridge
open BloomVerif.Actor

/-- One buffered row adds its marshaled length plus the length prefix to the partition's and the buffer's byte
    counters and one to both row counters (limits are judged in uncompressed bytes). -/
theorem rowAccount_eq (us rc bb br len : Int) :
    Gen.rowAccount us rc bb br len =
      (us + (len + Gen.const_LengthPrefixSize), rc + 1, bb + (len + Gen.const_LengthPrefixSize), br + 1) := rfl

/-- The limits are `Nat`s in the model and `int`s in the Go text. -/
theorem decide_cast_ge (a b : Nat) : decide ((a : Int) ≥ (b : Int)) = decide (a ≥ b) :=
  decide_eq_decide.2 Int.ofNat_le

theorem partitionTrigger_eq (sf : Bool) (rc us mr mb : Int) :
    Gen.partitionTrigger sf rc us mr mb = (sf || (decide (rc ≥ mr) || decide (us ≥ mb))) := by
  unfold Gen.partitionTrigger; dsimp only
  cases sf <;> cases decide (rc ≥ mr) <;> cases decide (us ≥ mb) <;> rfl

theorem bufferTrigger_eq (sf : Bool) (r b t mr mb mt : Int) :
    Gen.bufferTrigger sf r b t mr mb mt = (sf || decide (r ≥ mr) || decide (b ≥ mb) || decide (t ≥ mt)) := by
  unfold Gen.bufferTrigger; dsimp only
  cases sf <;> cases decide (r ≥ mr) <;> cases decide (b ≥ mb) <;> cases decide (t ≥ mt) <;> rfl

theorem tickTrigger_eq (r : Int) (st : Bool) (t mt : Int) :
    Gen.tickTrigger r st t mt = (decide (r > 0) && st && decide (t ≥ mt)) := rfl

/-- A partition is at a row-group limit (the model's test inside `partAtLimit`). -/
def atLimit (c : ACfg) (p : Part) : Bool :=
  decide (p.rows.length ≥ c.maxGroupRows) || decide (p.bytes ≥ c.maxGroupBytes)

/-- The partition loop of `processIngestRequest`: the regenerated check folded over the touched partitions, in
    whatever order the Go map yields them. -/
def partLoop (c : ACfg) (touched : List Part) (sf : Bool) : Bool :=
  touched.foldl (fun acc p => Gen.partitionTrigger acc (p.rows.length : Int) (p.bytes : Int)
    (c.maxGroupRows : Int) (c.maxGroupBytes : Int)) sf

theorem partLoop_eq (c : ACfg) (touched : List Part) (sf : Bool) :
    partLoop c touched sf = (sf || touched.any (atLimit c)) := by
  unfold partLoop
  induction touched generalizing sf with
  | nil => simp
  | cons p ps ih =>
    simp only [List.foldl_cons]
    rw [ih, partitionTrigger_eq, decide_cast_ge, decide_cast_ge, Bool.or_assoc]
    rfl

def touchedBy (rows : List RowIn) (parts : List Part) : List Part :=
  parts.filter (fun p => rows.any (fun r => r.pid = p.pid))

theorem partAtLimit_eq_loop (c : ACfg) (rows : List RowIn) (parts : List Part) :
    partAtLimit c rows parts = partLoop c (touchedBy rows parts) false := by
  rw [partLoop_eq]
  unfold partAtLimit touchedBy atLimit
  simp only [Bool.false_or, List.any_filter]

/-- Order of the touched partitions does not matter (the Go loop ranges over a map). -/
theorem partLoop_perm (c : ACfg) (l1 l2 : List Part) (sf : Bool) (h : l1.Perm l2) :
    partLoop c l1 sf = partLoop c l2 sf := by
  rw [partLoop_eq, partLoop_eq, h.any_eq]

/-- The whole decision of `processIngestRequest` as regenerated: partition loop, then buffer check. -/
def batchDecision (c : ACfg) (rows : List RowIn) (parts : List Part) (nrows nbytes since : Nat) : Bool :=
  Gen.bufferTrigger (partLoop c (touchedBy rows parts) false) (nrows : Int) (nbytes : Int) (since : Int)
    (c.maxBufRows : Int) (c.maxBufBytes : Int) (c.maxTime : Int)

theorem batchDecision_eq (c : ACfg) (rows : List RowIn) (parts : List Part) (nrows nbytes since : Nat) :
    batchDecision c rows parts nrows nbytes since =
      (partAtLimit c rows parts || decide (nrows ≥ c.maxBufRows) || decide (nbytes ≥ c.maxBufBytes) ||
        decide (since ≥ c.maxTime)) := by
  unfold batchDecision
  rw [bufferTrigger_eq, ← partAtLimit_eq_loop, decide_cast_ge, decide_cast_ge, decide_cast_ge]

/-- The start time the actor uses for a batch: the stored one, or the arrival time of the first buffered batch. -/
def startOf (s : ASt) (now : Nat) : Nat := match s.t0 with | some t => t | none => now

/-- The model's step flushes on a non-empty batch exactly when the regenerated decision says so. -/
theorem step_batch_generated (c : ACfg) (s : ASt) (w : Nat) (rows : List RowIn) (now : Nat) (hne : rows ≠ []) :
    step c s (.batch w rows now) =
      if batchDecision c rows (addRows rows s.parts) (s.rows + rows.length) (s.bytes + sumSize rows) (now - startOf s now)
      then ({}, [.flush (addRows rows s.parts) (s.waiters ++ [w])])
      else ({ parts := addRows rows s.parts, waiters := s.waiters ++ [w], rows := s.rows + rows.length,
              bytes := s.bytes + sumSize rows, t0 := some (startOf s now) }, []) := by
  rw [batchDecision_eq, step_batch c s w rows now hne]
  unfold startOf
  cases s.t0 <;> rfl

/-- The model's tick flushes exactly when the regenerated ticker condition holds. -/
theorem step_tick_generated (c : ACfg) (s : ASt) (now : Nat) :
    step c s (.tick now) =
      if Gen.tickTrigger (s.rows : Int) s.t0.isSome ((now - startOf s now : Nat) : Int) (c.maxTime : Int)
      then ({}, [.flush s.parts s.waiters]) else (s, []) := by
  rw [tickTrigger_eq]
  simp only [step]
  unfold startOf elapsed
  cases ht : s.t0 with
  | none => simp
  | some t =>
    have e1 : decide ((s.rows : Int) > 0) = decide (s.rows > 0) := decide_eq_decide.2 Int.natCast_pos
    simp only [Option.isSome_some, Bool.and_true, e1, decide_cast_ge]

end BloomVerif.Bridge
