/-
  T-gen bridge for `BlockRowScanner.Next` (file_format.go): the scanner step regenerated from the Go text —
  with every slice expression and the 4-byte read turned into an explicit bounds obligation — equals, from a
  cursor inside the section, the step that the row-section model `scanRows` iterates, which has no out-of-range
  outcome.
-/
import BloomVerif.Generated.Scanner
namespace BloomVerif.Bridge

/-- the step the model iterates (Model/Format `scanRows`), on integers -/
def scanStepSpec (n pos w : Int) : Gen.ScanStep :=
  if pos = n then .done
  else if n - pos < 4 then .err
  else if w > n - (pos + 4) then .err
  else .row (pos + 4) (pos + 4 + w) (pos + 4 + w)

/-- In particular the regenerated step is never `.panic` there. -/
theorem scanner_step_eq_spec (n pos : Int) (word : Int → Int)
    (hn : n ≤ 9223372036854775807) (hp : 0 ≤ pos) (hpn : pos ≤ n)
    (hw : 0 ≤ word pos) :
    Gen.BlockRowScanner_Next n pos word = scanStepSpec n pos (word pos) := by
  unfold Gen.BlockRowScanner_Next scanStepSpec
  rw [wsub_id (by i64omega)]
  by_cases h1 : pos = n
  · simp [h1]
  by_cases h2 : n - pos < 4
  · simp [h1, h2]
  -- four bytes remain: the prefix read is in range and nothing wraps
  have e1 : wadd pos 4 = pos + 4 := wadd_id (by i64omega)
  have e2 : wrapU64 (wsub n (pos + 4)) = n - (pos + 4) := by
    rw [wsub_id (by i64omega), wrapU64_id (by omega) (by i64omega)]
  have b1 : 0 ≤ pos ∧ pos + 4 ≤ n := by omega
  by_cases h3 : word pos > n - (pos + 4)
  · simp [h1, h2, e1, e2, b1, h3]
  -- the row fits: the slice is in range
  have e3 : wadd (pos + 4) (word pos) = pos + 4 + word pos := wadd_id (by i64omega)
  have b2 : 0 ≤ pos + 4 ∧ pos + 4 ≤ pos + 4 + word pos ∧ pos + 4 + word pos ≤ n := by omega
  simp [h1, h2, e1, e2, b1, h3, e3, b2]

end BloomVerif.Bridge
