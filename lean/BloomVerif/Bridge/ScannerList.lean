/-
  The integer scanner step (regenerated from `BlockRowScanner.Next`, Bridge/Scanner) and the byte-list model
  `scanRows` of Model/Format that the C17/C19 round-trip and bounds theorems are stated about: one unfolding of
  `scanRows` on the suffix at a cursor is the step specification at that cursor.
-/
import BloomVerif.Bridge.Scanner
import BloomVerif.Model.Format
namespace BloomVerif.Bridge

/-- the little-endian word at an offset of a byte list (0 where fewer than four bytes remain) -/
def wordAt (data : Bytes) (pos : Nat) : Nat :=
  match data.drop pos with
  | a :: b :: c :: d :: _ => u32dec a b c d
  | _ => 0

theorem wordAt_lt (data : Bytes) (pos : Nat) : wordAt data pos < 4294967296 := by
  unfold wordAt
  split
  · rename_i a b c d _ _
    unfold u32dec
    have := a.toNat_lt; have := b.toNat_lt; have := c.toNat_lt; have := d.toNat_lt
    omega
  · omega

/-- The `.panic` arm is there because the `match` must be total; the specification never returns `.panic`, the
    value given for it is arbitrary. -/
theorem scanRows_step (fuel : Nat) (data : Bytes) (pos : Nat) (hp : pos ≤ data.length) :
    scanRows (fuel + 1) (data.drop pos) =
      match scanStepSpec data.length pos (wordAt data pos) with
      | .done => .ok []
      | .err => .error (if data.length - pos < 4 then .truncatedPrefix else .lengthExceeds)
      | .row lo hi p' =>
        (match scanRows fuel (data.drop p'.toNat) with
         | .ok rs => .ok (((data.drop lo.toNat).take (hi - lo).toNat) :: rs)
         | .error e => .error e)
      | .panic => .error .truncatedPrefix := by
  unfold scanStepSpec wordAt
  have hlen : (data.drop pos).length = data.length - pos := List.length_drop
  match hd : data.drop pos with
  | [] =>
    have : pos = data.length := by rw [hd] at hlen; simp at hlen; omega
    simp [scanRows, this]
  | [_] | [_, _] | [_, _, _] =>
    have h1 : 0 < data.length - pos ∧ data.length - pos < 4 := by rw [hd] at hlen; simp at hlen; omega
    have hne : ¬ ((pos : Int) = data.length) := by omega
    have hlt : ((data.length : Int) - pos < 4) := by omega
    simp [scanRows, hne, hlt, h1.2]
  | a :: b :: c :: d :: rest =>
    have h1 : data.length - pos = rest.length + 4 := by rw [hd] at hlen; simpa using hlen.symm
    have hne : ¬ ((pos : Int) = data.length) := by omega
    have hlt : ¬ ((data.length : Int) - pos < 4) := by omega
    have hrest : rest = data.drop (pos + 4) := by
      have : data.drop (pos + 4) = (data.drop pos).drop 4 := by rw [List.drop_drop]
      rw [this, hd]; rfl
    simp only [scanRows, hne, hlt, if_false]
    by_cases hw : u32dec a b c d > rest.length
    · have hw' : ((u32dec a b c d : Nat) : Int) > (data.length : Int) - ((pos : Int) + 4) := by omega
      have h4 : ¬ (data.length - pos < 4) := by omega
      simp [hw, hw', h4]
    · have hw' : ¬ (((u32dec a b c d : Nat) : Int) > (data.length : Int) - ((pos : Int) + 4)) := by omega
      simp only [hw, hw', if_false]
      have e3 : ((pos : Int) + 4 + (u32dec a b c d : Nat) - ((pos : Int) + 4)).toNat = u32dec a b c d := by omega
      rw [e3, hrest, List.drop_drop]
      rfl

end BloomVerif.Bridge
