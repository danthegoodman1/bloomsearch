/-
  T-gen bridge for the accumulation loop of `Results.Stats` (query_results.go): the fold regenerated from the Go
  text (it adds every entry's rows and bytes, skipped or not, and counts skipped / processed blocks) equals the
  model's `Stats.totals` whenever skipped entries report zero rows and bytes - the invariant
  `skipped_reports_zero` (C23) establishes for the entries of a query.
-/
import BloomVerif.Generated.StatsLoop
namespace BloomVerif.Bridge
open BloomVerif.Stats

/-- The four counters in the order the regenerated loop carries them. -/
def totalsTuple (t : Totals) : Nat × Nat × Nat × Nat := (t.rowsScanned, t.bytesScanned, t.blocksProcessed, t.blocksSkipped)

theorem statsStep_eq (t : Totals) (e : Entry) (h : e.skipped = true → e.rowsProcessed = 0 ∧ e.bytesProcessed = 0) :
    Gen.statsStep (totalsTuple t) e = totalsTuple (addEntry t e) := by
  unfold Gen.statsStep addEntry totalsTuple
  cases hs : e.skipped
  · simp
  · have := h hs
    simp [this.1, this.2]

theorem statsTotals_generated (es : List Entry)
    (h : ∀ e ∈ es, e.skipped = true → e.rowsProcessed = 0 ∧ e.bytesProcessed = 0) :
    Gen.statsTotals es = totalsTuple (totals es) :=
  List.foldl_rel (r := fun a t => a = totalsTuple t) rfl fun e he _ t hr => hr ▸ statsStep_eq t e (h e he)

end BloomVerif.Bridge
