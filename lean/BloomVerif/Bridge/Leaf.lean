/-
  T-gen bridge: every definition regenerated from /repo's Go source equals the hand model the
  property theorems are stated about. A semantic edit of the Go function breaks one of these
  kernel-checked lemmas; a harmless rewrite (reordered cases, renamed locals) does not.
-/
import BloomVerif.Generated.Leaf
import BloomVerif.Model.Prefilter
namespace BloomVerif.Bridge

/- The regenerated evaluators and the model dispatch on the same ten operator names: on each name both
   sides compute the same arm, on any other string both are false. -/

theorem evalNumeric_bridge (v : Int) (c : NumericCondition) :
    Gen.EvaluateNumericCondition v c = evalNumeric v c := by
  unfold Gen.EvaluateNumericCondition evalNumeric
  generalize c.Operator = s
  induction s using opName_cases with
  | known o =>
    rw [parseOp_name]
    cases o <;> simp only [Op.name, String.reduceEq, ↓reduceIte, ite_bool, ite_bool_not]
  | unknown s h => simp only [parseOp_unknown h, ne_names h, if_false]

theorem evalString_bridge (v : String) (c : StringCondition) :
    Gen.EvaluateStringCondition v c = evalString v c := by
  unfold Gen.EvaluateStringCondition evalString
  generalize c.Operator = s
  induction s using opName_cases with
  | known o =>
    rw [parseOp_name]
    cases o <;> simp only [Op.name, String.reduceEq, ↓reduceIte, ite_bool, ite_bool_not]
  | unknown s h => simp only [parseOp_unknown h, ne_names h, if_false]

theorem evalMinMax_bridge (mm : MinMaxIndex) (c : NumericCondition) :
    Gen.EvaluateMinMaxCondition mm c = evalMinMax mm c := by
  unfold Gen.EvaluateMinMaxCondition evalMinMax
  generalize c.Operator = s
  induction s using opName_cases with
  | known o =>
    rw [parseOp_name]
    cases o <;> simp only [Op.name, String.reduceEq, ↓reduceIte, ite_bool]
  | unknown s h => simp only [parseOp_unknown h, ne_names h, if_false]

theorem updateMinMax_bridge (e : MinMaxIndex) (a b : Int) :
    Gen.UpdateMinMaxIndex e a b = updateMinMax e a b := by
  unfold Gen.UpdateMinMaxIndex updateMinMax
  by_cases h1 : a < e.Min <;> by_cases h2 : b > e.Max <;> simp [h1, h2]

/-- On the uint64 range the regenerated unsigned clamp is the model's saturating conversion. -/
theorem clampUint64_bridge (v : Int) (h0 : 0 ≤ v) (h1 : v ≤ maxUint64) :
    Gen.clampUint64ToInt64 v = clamp v := by
  -- `h1` is not needed: above int64 both sides saturate, whatever the value
  unfold Gen.clampUint64ToInt64 clamp
  simp only [decide_eq_true_eq]
  by_cases h : v > maxInt64
  · rw [if_pos h, if_pos (Int.le_of_lt h)]
  · -- inside int64 the conversion does not wrap; the model saturates only at the top value itself
    rw [if_neg h, wrap64_id (by i64omega)]
    split
    · omega
    · rw [if_neg (by i64omega)]

end BloomVerif.Bridge
