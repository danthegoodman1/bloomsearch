/-
  T-gen bridge for `blockFilterCursor.readChunkFrom` (file_format.go): the extension loop regenerated from
  the Go text (continue on an empty section, break on an invalid one, on one that starts before the chunk or
  ends past the cap, otherwise extend) computes the model's `chunkExtend` / `chunkFor`, which
  `chunk_within_region` (C19) is about.
-/
import BloomVerif.Generated.Chunk
import BloomVerif.Lemmas.Format
namespace BloomVerif.Bridge

theorem chunk_loop_bridge (target rs re start : Int)
    (hrs : 0 ≤ rs) (hre : re ≤ maxInt64) (hs1 : rs ≤ start) :
    ∀ (following : List DataBlockMetadata) (e cov : Int), start ≤ e → e ≤ re →
      (Gen.readChunkFrom_loop target rs re start e cov following).1 = chunkExtend target rs re start e following := by
  intro following
  induction following with
  | nil => intro e cov _ _; simp [Gen.readChunkFrom_loop, chunkExtend]
  | cons nb rest ih =>
    intro e cov he1 he2
    have hv : Gen.validateFilterSection nb rs re = validSection nb rs re := validSection_bridge (by i64omega)
    unfold Gen.readChunkFrom_loop chunkExtend
    by_cases c0 : nb.BloomFilterSize = 0
    · simp only [c0, decide_true, if_true]
      exact ih e cov he1 he2
    · simp only [c0, decide_false, Bool.false_eq_true, if_false, hv]
      by_cases cv : validSection nb rs re = true
      · simp only [cv, Bool.not_true, Bool.false_eq_true, if_false]
        -- a valid non-empty section lies inside the region
        obtain ⟨h0, hin⟩ := validSection_iff.mp cv
        have hin := hin (by omega)
        have e1 : wadd nb.BloomFilterOffset nb.BloomFilterSize = nb.BloomFilterOffset + nb.BloomFilterSize :=
          wadd_id (by i64omega)
        have e2 : wsub (nb.BloomFilterOffset + nb.BloomFilterSize) start = nb.BloomFilterOffset + nb.BloomFilterSize - start :=
          wsub_id (by i64omega)
        simp only [e1, e2, Bool.or_eq_true, decide_eq_true_eq]
        by_cases c2 : nb.BloomFilterOffset < start ∨ nb.BloomFilterOffset + nb.BloomFilterSize - start > target
        · simp [c2]
        · simp only [c2, if_false]
          by_cases c3 : nb.BloomFilterOffset + nb.BloomFilterSize > e
          · simp only [c3, if_true]
            exact ih _ _ (by omega) (by omega)
          · simp only [c3, if_false]
            exact ih _ _ he1 he2
      · have cv' : validSection nb rs re = false := by simpa using cv
        simp [cv']

theorem chunkFor_generated (target rs re : Int) (b : DataBlockMetadata) (following : List DataBlockMetadata)
    (hrs : 0 ≤ rs) (hre : re ≤ maxInt64) (hv : validSection b rs re = true) (hs : 0 < b.BloomFilterSize) :
    ((Gen.readChunkFrom_extent target rs re b following).1, (Gen.readChunkFrom_extent target rs re b following).2.1) =
      chunkFor target rs re b following := by
  have hin := (validSection_iff.mp hv).2 hs
  have e1 : wadd b.BloomFilterOffset b.BloomFilterSize = b.BloomFilterOffset + b.BloomFilterSize :=
    wadd_id (by i64omega)
  unfold Gen.readChunkFrom_extent chunkFor
  simp only [e1]
  rw [chunk_loop_bridge target rs re b.BloomFilterOffset hrs hre hin.1 following _ 1 (by omega) hin.2]

end BloomVerif.Bridge
