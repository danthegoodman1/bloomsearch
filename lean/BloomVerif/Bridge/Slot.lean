/-
  T-gen bridge for the query semaphore slot (query_results.go): `querySlot.acquire` / `querySlot.release` and the
  script of `Results.deliver` as regenerated (`Generated/Slot`). These are the facts the worker phases of
  `Model/Slots` (working/reading hold one slot, blocked/idle hold none) rest on.
-/
import BloomVerif.Generated.Slot
import BloomVerif.Model.Slots
namespace BloomVerif.Bridge

/-- tokens a slot contributes to the semaphore -/
def tok (held : Bool) : Int := if held then 1 else 0

theorem slotAcquire_spec (held : Bool) (tokens : Int) (c : Gen.SelCase) :
    Gen.slotAcquire held tokens c =
      if held then (true, tokens, true)
      else match c with
        | .send => (true, tokens + 1, true)
        | .ctxDone => (false, tokens, false) := by
  cases held <;> cases c <;> rfl

theorem slotRelease_spec (held : Bool) (tokens : Int) (c : Gen.SelCase) :
    Gen.slotRelease held tokens c = (false, tokens - (tok held), true) := by
  unfold Gen.slotRelease tok
  cases held <;> simp <;> omega

/-- a call on a slot: acquire (with the select outcome if it has to wait) or release -/
inductive SlotOp
  | acquire (c : Gen.SelCase)
  | release
deriving Repr

def slotStep (st : Bool × Int) : SlotOp → Bool × Int
  | .acquire c => let r := Gen.slotAcquire st.1 st.2 c; (r.1, r.2.1)
  | .release => let r := Gen.slotRelease st.1 st.2 .send; (r.1, r.2.1)

theorem slotStep_conserves (st : Bool × Int) (h : st.2 = tok st.1) (op : SlotOp) :
    (slotStep st op).2 = tok (slotStep st op).1 := by
  obtain ⟨held, tokens⟩ := st
  dsimp only at h
  subst h
  cases op with
  | acquire c =>
    simp only [slotStep, slotAcquire_spec]
    cases held <;> cases c <;> simp [tok]
  | release =>
    simp only [slotStep, slotRelease_spec]
    cases held <;> simp [tok]

theorem slot_conserves (ops : List SlotOp) :
    (ops.foldl slotStep (false, 0)).2 = tok (ops.foldl slotStep (false, 0)).1 :=
  List.foldlRecOn ops slotStep (motive := fun st => st.2 = tok st.1) rfl
    fun st h op _ => slotStep_conserves st h op

/-- An acquire on a held slot and a release on an unheld slot touch the semaphore not at all. -/
theorem slot_noops (tokens : Int) (c : Gen.SelCase) :
    (Gen.slotAcquire true tokens c).2.1 = tokens ∧ (Gen.slotRelease false tokens c).2.1 = tokens := by
  rw [slotAcquire_spec, slotRelease_spec]
  simp [tok]

theorem held_count_eq_tokens (hs : List Bool) : ((hs.filter id).length : Int) = (hs.map tok).sum := by
  induction hs with
  | nil => rfl
  | cons a t ih =>
    rw [List.map_cons, List.sum_cons, ← ih]
    cases a <;> simp [tok]
    omega

/-- With the semaphore channel holding at most `cap` tokens (Go's channel capacity) and every slot
    contributing `tok held`, at most `cap` slots are held. -/
theorem held_le_cap (hs : List Bool) (cap : Nat) (h : (hs.map tok).sum ≤ (cap : Int)) :
    (hs.filter id).length ≤ cap := by
  have e := held_count_eq_tokens hs
  omega

/-- Run the regenerated script of `deliver` from a slot state; `choices` are the select outcomes of the
    acquires. The result records whether the slot was held at each blocking send. -/
def runDeliver : List Gen.DAct → Bool × Int → List Bool → (Bool × Int) × List Bool
  | [], st, seen => (st, seen)
  | .trySend :: r, st, seen => runDeliver r st seen
  | .release :: r, st, seen => runDeliver r (slotStep st .release) seen
  | .blockingSend :: r, st, seen => runDeliver r st (seen ++ [st.1])
  | .acquire :: r, st, seen => runDeliver r (slotStep st (.acquire .send)) seen

/-- On its slow path `deliver` blocks on the row channel exactly once, with the slot given up, and returns nil
    with the slot held again and the semaphore contribution restored. -/
theorem deliver_blocks_unheld :
    runDeliver Gen.deliverScript (true, 1) [] = ((true, 1), [false]) := by
  decide

/-- The same from an unheld slot (a caller that lost its slot): still no blocking while held. -/
theorem deliver_blocks_unheld' :
    (runDeliver Gen.deliverScript (false, 0) []).2 = [false] := by
  decide

/-- The worker phases of `Model/Slots` seen from the slot: a worker holds a token exactly in the phases the
    model counts as held. -/
theorem phase_tokens (p : Slots.Phase) : tok (Slots.held p) = if p = .working ∨ p = .reading then 1 else 0 := by
  cases p <;> rfl

end BloomVerif.Bridge
