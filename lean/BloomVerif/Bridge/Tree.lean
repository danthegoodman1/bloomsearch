/-
  T-gen bridge for the two expression-tree walks. `evaluatePrefilterExpression` (query.go) and
  `evaluateBloomExpression` (query_exec.go) are regenerated in one shape — nil test, case constants,
  empty-OR test, early-return polarity of both loops, default verdict all taken from the Go text.
  `IsTreeWalk` states that shape; any walk of that shape is the model's `Expr.eval`, for every tree
  and every leaf evaluator. Composed with `evalPreCond_bridge`, the whole prefilter evaluation on
  block metadata is the regenerated code.
-/
import BloomVerif.Generated.Tree
import BloomVerif.Bridge.PreCond
import BloomVerif.Model.Match
namespace BloomVerif.Bridge

variable {C : Type}

/-- A node function and its two child loops with early return, as the translator prints them. -/
structure IsTreeWalk (leaf : C → Bool) (t : Expr C → Bool) (l0 l1 : List (Expr C) → Bool) : Prop where
  node : ∀ ty cond ch, t (.mk ty cond ch) =
    if ty = "CONDITION" then (match cond with | none => true | some c => leaf c)
    else if ty = "OR" then (if ch.length == 0 then false else l0 ch)
    else if ty = "AND" then l1 ch
    else false
  any_nil : l0 [] = false
  any_cons : ∀ e es, l0 (e :: es) = if t e then true else l0 es
  all_nil : l1 [] = true
  all_cons : ∀ e es, l1 (e :: es) = if !(t e) then false else l1 es

namespace IsTreeWalk
variable {leaf : C → Bool} {t : Expr C → Bool} {l0 l1 : List (Expr C) → Bool} (w : IsTreeWalk leaf t l0 l1)
include w

mutual
  theorem eval_eq : ∀ e : Expr C, t e = Expr.eval leaf e
    | .mk ty cond ch => by
      simp only [w.node, any_eq ch, all_eq ch]
      -- Go tests `len(children) == 0` before the OR loop; the model's `evalAny []` is false anyway
      cases ch <;> rfl
  theorem any_eq : ∀ es : List (Expr C), l0 es = Expr.evalAny leaf es
    | [] => w.any_nil
    | e :: es => by
      rw [w.any_cons, Expr.evalAny, eval_eq e, any_eq es]; cases Expr.eval leaf e <;> rfl
  theorem all_eq : ∀ es : List (Expr C), l1 es = Expr.evalAll leaf es
    | [] => w.all_nil
    | e :: es => by
      rw [w.all_cons, Expr.evalAll, eval_eq e, all_eq es]; cases Expr.eval leaf e <;> rfl
end
end IsTreeWalk

theorem prefilter_walk (leaf : C → Bool) : IsTreeWalk leaf (Gen.evaluatePrefilterExpression leaf)
    (Gen.evaluatePrefilterExpression_loop0 leaf) (Gen.evaluatePrefilterExpression_loop1 leaf) :=
  ⟨fun _ _ _ => rfl, rfl, fun _ _ => rfl, rfl, fun _ _ => rfl⟩

theorem bloom_walk (leaf : C → Bool) : IsTreeWalk leaf (Gen.evaluateBloomExpression leaf)
    (Gen.evaluateBloomExpression_loop0 leaf) (Gen.evaluateBloomExpression_loop1 leaf) :=
  ⟨fun _ _ _ => rfl, rfl, fun _ _ => rfl, rfl, fun _ _ => rfl⟩

theorem prefilterLoop0_eq (leaf : C → Bool) : ∀ es : List (Expr C), Gen.evaluatePrefilterExpression_loop0 leaf es = Expr.evalAny leaf es :=
  (prefilter_walk leaf).any_eq
theorem prefilterLoop1_eq (leaf : C → Bool) : ∀ es : List (Expr C), Gen.evaluatePrefilterExpression_loop1 leaf es = Expr.evalAll leaf es :=
  (prefilter_walk leaf).all_eq
theorem bloomLoop0_eq (leaf : C → Bool) : ∀ es : List (Expr C), Gen.evaluateBloomExpression_loop0 leaf es = Expr.evalAny leaf es :=
  (bloom_walk leaf).any_eq
theorem bloomLoop1_eq (leaf : C → Bool) : ∀ es : List (Expr C), Gen.evaluateBloomExpression_loop1 leaf es = Expr.evalAll leaf es :=
  (bloom_walk leaf).all_eq

/-- `evaluatePrefilterExpression(metadata, expr)` as regenerated, with the regenerated leaf
    `evaluatePrefilterCondition`, is the model's `evalPre` — for every metadata value and every tree. -/
theorem evalPre_generated (m : DataBlockMetadata) (e : Option PreExpr) :
    Gen.evaluatePrefilterExpressionPtr (Gen.evaluatePrefilterCondition m) e = evalPre m e := by
  rw [funext (evalPreCond_bridge m)]
  cases e with
  | none => rfl
  | some e => exact (prefilter_walk _).eval_eq e

/-- `evaluateBloomExpression(filters, expr)` as regenerated is the model's filter-test tree `evalFilt`,
    for the model's leaf test `filtCond f` (a bloom library membership test, trusted). -/
theorem evalFilt_generated (f : Filt) (p : Option BloomExpr) :
    Gen.evaluateBloomExpressionPtr (filtCond f) p = evalFilt f p := by
  cases p with
  | none => rfl
  | some e => exact (bloom_walk _).eval_eq e

end BloomVerif.Bridge
