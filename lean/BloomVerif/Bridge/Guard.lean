/-
  T-gen bridge for the regex field guard: the transformer regenerated from
  `regexExpressionToBloomFieldExpression` (query.go) equals the model's `guardOf`, which `guard_sound` (C01)
  and the prune query of C24 are stated about.
-/
import BloomVerif.Generated.Guard
namespace BloomVerif.Bridge

-- The two texts are the same; once the recursive calls are rewritten the sides differ only in which compiled
-- `match` they name, and those unfold to the same `casesOn`.
mutual
  theorem guard_eq : ∀ e : RegexExpr, Gen.regexExpressionToBloomFieldExpression e = guardOf e
    | .mk ty cond ch => by
      simp only [Gen.regexExpressionToBloomFieldExpression, guardOf, guardChildren_eq ch]
      rfl
  theorem guardChildren_eq : ∀ es : List RegexExpr, Gen.regexExpressionToBloomFieldExpression_children es = guardL es
    | [] => rfl
    | e :: es => by
      simp only [Gen.regexExpressionToBloomFieldExpression_children, guardL, guard_eq e, guardChildren_eq es]
      rfl
end

/-- the guard of a possibly absent regex expression, as `pruneBloom` uses it -/
theorem guardPtr_eq (e : Option RegexExpr) : Gen.regexExpressionToBloomFieldExpressionPtr e = e.bind guardOf := by
  cases e with
  | none => rfl
  | some e => simp [Gen.regexExpressionToBloomFieldExpressionPtr, guard_eq]

end BloomVerif.Bridge
