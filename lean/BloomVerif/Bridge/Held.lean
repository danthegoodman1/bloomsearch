/-
  T-gen bridge for `blockFilterCursor.heldSection` (file_format.go): the function regenerated from the Go text,
  with the returned slice `c.buf[offset : offset+size]` as an explicit bounds obligation, equals the model's
  `heldSection` (Model/Format, which `held_section_in_buf` is about) — for a section whose size is not
  negative, which `validateFilterSection` has established before the cursor is asked.
-/
import BloomVerif.Generated.Scanner
import BloomVerif.Model.Format
namespace BloomVerif.Bridge

theorem heldSection_bridge (bufLen chunkStart : Int) (b : DataBlockMetadata)
    (hl' : bufLen ≤ 9223372036854775807) (hd : InI64 (b.BloomFilterOffset - chunkStart))
    (hs : 0 ≤ b.BloomFilterSize) :
    Gen.heldSection false bufLen chunkStart b =
      match heldSection b chunkStart bufLen with
      | none => .none
      | some (lo, hi) => .some lo hi := by
  unfold Gen.heldSection heldSection
  rw [wsub_id hd]
  generalize b.BloomFilterOffset - chunkStart = off
  by_cases h1 : off < 0
  · simp [h1]
  by_cases h2 : off > bufLen
  · simp [h2]
  -- the section starts inside the buffer, so the remaining length does not wrap
  have e2 : wsub bufLen off = bufLen - off := wsub_id (by i64omega)
  by_cases h3 : b.BloomFilterSize > bufLen - off
  · simp [e2, h3]
  -- and it ends inside the buffer: the slice is in range
  have e3 : wadd off b.BloomFilterSize = off + b.BloomFilterSize := wadd_id (by i64omega)
  have hb : 0 ≤ off ∧ off ≤ off + b.BloomFilterSize ∧ off + b.BloomFilterSize ≤ bufLen := by omega
  simp [h1, h2, e2, h3, e3, hb]

end BloomVerif.Bridge
