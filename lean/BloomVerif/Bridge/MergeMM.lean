/-
  T-gen bridge for `mergeMinMaxIndexes` (merge.go): the union of two blocks' minmax maps as regenerated from the
  Go text (`Generated/MergeMM`: Go maps as association lists, `range` loops as folds) is the model's `mergeMM`
  (`Model/Content`) - the function the merge theorems of C11 (`C11_partition_minmax`, `mergeGroup_WF`) are about -
  whenever the first map's keys are distinct, which a Go map's are.
-/
import BloomVerif.Generated.MergeMM
import BloomVerif.Bridge.Leaf
import BloomVerif.Lemmas.Build
namespace BloomVerif.Bridge

theorem mapSet_fresh (m : List (String × MinMaxIndex)) (k : String) (v : MinMaxIndex)
    (h : ∀ p ∈ m, p.1 ≠ k) : Gen.mapSet m k v = m ++ [(k, v)] := by
  induction m with
  | nil => rfl
  | cons a r ih =>
    obtain ⟨k', v'⟩ := a
    have hk : k' ≠ k := h (k', v') List.mem_cons_self
    simp only [Gen.mapSet, hk, if_false, List.cons_append]
    rw [ih (fun p hp => h p (List.mem_cons_of_mem _ hp))]

theorem copy_loop (l acc : List (String × MinMaxIndex))
    (hnd : (l.map (·.1)).Nodup) (hdis : ∀ p ∈ acc, ∀ q ∈ l, p.1 ≠ q.1) :
    l.foldl (fun merged kv => Gen.mapSet merged kv.1 kv.2) acc = acc ++ l := by
  induction l generalizing acc with
  | nil => simp
  | cons a r ih =>
    simp only [List.map_cons, List.nodup_cons, List.mem_map, not_exists, not_and] at hnd
    simp only [List.foldl_cons]
    rw [mapSet_fresh acc a.1 a.2 (fun p hp => hdis p hp a List.mem_cons_self)]
    rw [ih (acc ++ [(a.1, a.2)]) hnd.2]
    · simp
    · intro p hp q hq
      simp only [List.mem_append, List.mem_singleton] at hp
      rcases hp with hp | hp
      · exact hdis p hp q (List.mem_cons_of_mem _ hq)
      · subst hp
        exact fun e => hnd.1 q hq e.symm

/-- One iteration of the second loop is the model's `mmInsert`. -/
theorem merge_step (merged : List (String × MinMaxIndex)) (k : String) (v : MinMaxIndex) :
    (match merged.lookup k with
      | some index1 => Gen.mapSet merged k (Gen.UpdateMinMaxIndex index1 v.Min v.Max)
      | none => Gen.mapSet merged k v) = mmInsert k v.Min v.Max merged := by
  induction merged with
  | nil => rfl
  | cons a r ih =>
    obtain ⟨k', mm⟩ := a
    by_cases hk : k' = k
    · subst hk
      simp only [List.lookup_cons, beq_self_eq_true, Gen.mapSet, if_true, mmInsert, updateMinMax_bridge]
    · have e : (k == k') = false := by simpa using fun x => hk x.symm
      simp only [List.lookup_cons, e, mmInsert, hk, if_false]
      rw [← ih]
      cases r.lookup k <;> simp only [Gen.mapSet, hk, if_false]

theorem mergeMM_generated (a b : List (String × MinMaxIndex)) (hnd : (a.map (·.1)).Nodup) :
    Gen.mergeMinMaxIndexes a b = mergeMM a b := by
  unfold Gen.mergeMinMaxIndexes mergeMM
  simp only
  rw [copy_loop a [] hnd (by simp)]
  congr 1
  funext merged kv
  exact merge_step merged kv.1 kv.2

/-- What `C11_partition_minmax` needs of the merge executor. -/
theorem mergeMM_generated_covers (a b : List (String × MinMaxIndex)) (hnd : (a.map (·.1)).Nodup)
    (k : String) (mm : MinMaxIndex) (h : (k, mm) ∈ b) :
    ∃ mm', List.lookup k (Gen.mergeMinMaxIndexes a b) = some mm' ∧ mm'.Min ≤ mm.Min ∧ mm.Max ≤ mm'.Max := by
  rw [mergeMM_generated a b hnd]
  exact mergeMM_covers a b k mm h

end BloomVerif.Bridge
